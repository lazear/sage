import SageModel.Props.C12

/-!
# C12 — run-length encoded model and the `as f32` counter conversion

The RLE model computes, run by run, what the list model computes PSM by PSM. Along a run the estimates are
monotone in the order `leOpt` (`none` = +∞ on top): they fall along targets, so the last one decides the
whole run; they rise along decoys, so each PSM keeps its own, capped by the running minimum.
The conversion is the 24-bit round-to-nearest-even of the tallies. All that is used of `rne n s` is that it
is a multiple of `2^s` within half a step of `n` and leaves the multiples alone.
-/

namespace Sage.C12

def leOpt : Option Rat → Option Rat → Prop
  | _, none => True
  | none, some _ => False
  | some x, some y => x ≤ y

theorem minOpt_right_comm (m : Rat) : ∀ r s : Option Rat, minOpt (minOpt m r) s = minOpt (minOpt m s) r
  | some x, some y => min_right_comm m x y
  | none, _ => rfl
  | some _, none => rfl

theorem minOpt_absorb {r s : Option Rat} (h : leOpt r s) (m : Rat) : minOpt (minOpt m r) s = minOpt m r := by
  cases s with
  | none => rfl
  | some y =>
    cases r with
    | none => exact h.elim
    | some x => exact min_eq_left ((min_le_right m x).trans h)

theorem ratio_mono {d d' t t' : Nat} (hd : d ≤ d') (ht : t' ≤ t) : leOpt (ratio (d, t)) (ratio (d', t')) := by
  unfold ratio
  by_cases h' : t' = 0
  · rw [if_pos h']; split <;> trivial
  · have h : t ≠ 0 := fun h => h' (Nat.le_zero.mp (h ▸ ht))
    rw [if_neg h', if_neg h]
    exact div_le_div₀ (Nat.cast_nonneg d') (Nat.cast_le.mpr hd) (Nat.cast_pos.mpr (Nat.pos_of_ne_zero h'))
      (Nat.cast_le.mpr ht)

theorem ratioC_mono {cv : Nat → Nat} (hcv : Monotone cv) {d d' t t' : Nat} (hd : d ≤ d') (ht : t' ≤ t) :
    leOpt (ratioC cv (d, t)) (ratioC cv (d', t')) :=
  ratio_mono (hcv hd) (hcv ht)

theorem cumminFrom_increasing (m : Rat) {rs : List (Option Rat)} (h : rs.Pairwise leOpt) :
    cumminFrom m rs = rs.map (minOpt m) := by
  induction rs with
  | nil => rfl
  | cons r rs ih =>
    obtain ⟨hr, hrs⟩ := List.pairwise_cons.mp h
    simp only [cumminFrom, ih hrs, List.map_cons]
    cases rs with
    | nil => rfl
    | cons s rs => exact congrArg (· :: _) ((minOpt_right_comm m s r).trans (minOpt_absorb (hr s List.mem_cons_self) m))

theorem cumminFrom_const {m : Rat} {rs : List (Option Rat)} (h : ∀ r ∈ rs, minOpt m r = m) :
    cumminFrom m rs = List.replicate rs.length m :=
  List.eq_replicate_iff.mpr ⟨cumminFrom_length m rs,
    (cumminFrom_forall (P := (· = m)) rfl fun a ha r hr => by rw [ha]; exact h r hr).2⟩

theorem cumminFrom_snoc_least (m : Rat) {rs : List (Option Rat)} {a : Option Rat} (h : ∀ r ∈ rs, leOpt a r) :
    cumminFrom m (rs ++ [a]) = List.replicate (rs.length + 1) (minOpt m a) := by
  rw [cumminFrom_snoc, cumminFrom_const fun r hr => minOpt_absorb (h r hr) m, ← List.replicate_succ']

theorem counts_replicate_true (d t k : Nat) :
    counts d t (List.replicate k true) = (List.range' (d + 1) k).map (·, t) := by
  induction k generalizing d with
  | zero => rfl
  | succ k ih => simp only [List.replicate_succ, counts, if_true, List.range'_succ, List.map_cons, ih]

theorem counts_replicate_false (d t k : Nat) :
    counts d t (List.replicate k false) = (List.range' (t + 1) k).map (d, ·) := by
  induction k generalizing t with
  | zero => rfl
  | succ k ih =>
    simp only [List.replicate_succ, counts, Bool.false_eq_true, if_false, List.range'_succ, List.map_cons, ih]

theorem counts_replicate_append (d t k : Nat) (b : Bool) (l : List Bool) :
    counts d t (List.replicate k b ++ l) =
      counts d t (List.replicate k b) ++ counts (if b then d + k else d) (if b then t else t + k) l := by
  rw [counts_append]
  cases b <;> simp

theorem cumminFrom_targets {cv : Nat → Nat} (hcv : Monotone cv) (m : Rat) (d t k : Nat) :
    cumminFrom m ((counts d t (List.replicate (k + 1) false)).map (ratioC cv)) =
      List.replicate (k + 1) (minOpt m (ratioC cv (d, t + (k + 1)))) := by
  rw [counts_replicate_false, List.range'_1_concat, List.map_append, List.map_append, List.map_singleton,
    List.map_singleton, cumminFrom_snoc_least, List.length_map, List.length_map, List.length_range',
    Nat.add_right_comm t 1 k]
  · rfl
  · exact List.forall_mem_map.mpr <| List.forall_mem_map.mpr fun a ha =>
      ratioC_mono hcv (le_refl d) (List.mem_range'_1.mp ha).2.le

theorem expandRuns_decoyPieces {cv : Nat → Nat} (hcv : Monotone cv) (m : Rat) (d t k : Nat) :
    expandRuns (decoyPieces cv t m d k) = (List.range' (d + 1) k).map fun a => minOpt m (ratioC cv (a, t)) := by
  induction k generalizing d with
  | zero => rfl
  | succ k ih =>
    -- once an estimate has reached `m`, so have all later ones
    have cap (h : minOpt m (ratioC cv (d + 1, t)) = m) :
        (List.range' (d + 1) (k + 1)).map (fun a => minOpt m (ratioC cv (a, t))) = List.replicate (k + 1) m := by
      refine List.eq_replicate_iff.mpr ⟨by rw [List.length_map, List.length_range'],
        List.forall_mem_map.mpr fun a ha => ?_⟩
      rw [← h, minOpt_absorb (ratioC_mono hcv (List.mem_range'_1.mp ha).1 (le_refl t))]
    unfold decoyPieces
    split
    · next hr => rw [cap (by rw [hr]; rfl)]; exact List.append_nil _
    · next x hr =>
      split
      · next hm => rw [cap (by rw [hr]; exact min_eq_left hm)]; exact List.append_nil _
      · next hm =>
        rw [List.range'_succ, List.map_cons, hr, ← ih (d + 1)]
        exact congrArg (· :: _) (min_eq_right (le_of_not_ge hm)).symm

theorem cumminFrom_run {cv : Nat → Nat} (hcv : Monotone cv) (m : Rat) (b : Bool) (d t k : Nat) :
    cumminFrom m ((counts d t (List.replicate k b)).map (ratioC cv)) =
      expandRuns (runPieces cv b d t m k) := by
  cases b with
  | true =>
    rw [counts_replicate_true, List.map_map, cumminFrom_increasing, List.map_map]
    · exact (expandRuns_decoyPieces hcv m d t k).symm
    · exact List.pairwise_map.mpr ((List.pairwise_lt_range' 1).imp fun h => ratioC_mono hcv h.le (le_refl t))
  | false =>
    cases k with
    | zero => rfl
    | succ k => rw [cumminFrom_targets hcv]; exact (List.append_nil _).symm

theorem hdOr_expandRuns (m : Rat) (ps : List (Rat × Nat)) : hdOr m (expandRuns ps) = headOr m ps := by
  induction ps with
  | nil => rfl
  | cons p ps ih =>
    obtain ⟨x, k⟩ := p
    cases k with
    | zero => exact ih
    | succ k => rfl

theorem expandRuns_append {α : Type} (a b : List (α × Nat)) :
    expandRuns (a ++ b) = expandRuns a ++ expandRuns b := by
  induction a with
  | nil => rfl
  | cons p a ih => simp only [List.cons_append, expandRuns, ih, List.append_assoc]

theorem qRleAux_eq {cv : Nat → Nat} (hcv : Monotone cv) (runs : List (Bool × Nat)) (d t : Nat) :
    expandRuns (qRleAux cv d t runs).1 = cumminFrom 1 ((counts d t (expand runs)).map (ratioC cv)) ∧
    (qRleAux cv d t runs).2 = hdOr 1 (cumminFrom 1 ((counts d t (expand runs)).map (ratioC cv))) := by
  induction runs generalizing d t with
  | nil => exact ⟨rfl, rfl⟩
  | cons r rs ih =>
    obtain ⟨b, k⟩ := r
    obtain ⟨ih1, ih2⟩ := ih (if b then d + k else d) (if b then t else t + k)
    have hexp : expand ((b, k) :: rs) = List.replicate k b ++ expand rs := rfl
    simp only [qRleAux, hexp, counts_replicate_append, List.map_append, cumminFrom_append, expandRuns_append]
    rw [← ih2, ← ih1, cumminFrom_run hcv]
    exact ⟨rfl, by rw [hdOr_append, ih1, ← ih2, hdOr_expandRuns]⟩

theorem filter_expandRuns_length {α : Type} (p : α → Bool) (ps : List (α × Nat)) :
    ((expandRuns ps).filter p).length = ((ps.filter (fun x => p x.1)).map (·.2)).sum := by
  induction ps with
  | nil => rfl
  | cons x ps ih =>
    obtain ⟨a, k⟩ := x
    simp only [expandRuns, List.filter_append, List.length_append, ih, List.filter_replicate, List.filter_cons]
    cases p a <;> simp

/-- **C12.qRle_eq** — expanding the q-value pieces that `qRle` computes on the runs gives the q-values the
    PSM-by-PSM model computes on the expanded label list, and the passing counts coincide. Every run list
    (empty runs, adjacent runs of the same label), every monotone counter conversion. -/
theorem qRle_eq (cv : Nat → Nat) (hcv : ∀ a b, a ≤ b → cv a ≤ cv b) (runs : List (Bool × Nat)) :
    expandRuns (qRle cv runs).1 = (spectrumQC cv (expand runs)).1 ∧
    (qRle cv runs).2 = (spectrumQC cv (expand runs)).2 := by
  have h : expandRuns (qRle cv runs).1 = (spectrumQC cv (expand runs)).1 :=
    (qRleAux_eq hcv runs 1 0).1.trans (cummin_eq_cumminFrom _).symm
  exact ⟨h, (filter_expandRuns_length (fun q => decide (q ≤ 1/100)) (qRle cv runs).1).symm.trans (by rw [h]; rfl)⟩

theorem spectrumQC_id (labels : List Bool) : spectrumQC id labels = spectrumQ labels := rfl

/-- **C12.qRle_exact** — with exact counters (the property's definition) the RLE model expands to
    `spectrumQ`, hence (by `q_eq_spec`) to the O(n²) target-decoy definition on the expanded list -/
theorem qRle_exact (runs : List (Bool × Nat)) :
    expandRuns (qRle id runs).1 = (spectrumQ (expand runs)).1 ∧ (qRle id runs).2 = (spectrumQ (expand runs)).2 :=
  qRle_eq id (fun _ _ h => h) runs

/-- non-vacuity: T×3, D×2, T×0, T×2, D×1 — the pieces, and their expansion against the list model -/
example : (qRle id [(false, 3), (true, 2), (false, 0), (false, 2), (true, 1)]).1
    = [(1/3, 3), (3/5, 2), (3/5, 2), (4/5, 1)] := by
  decide +kernel

example : (spectrumQ (expand [(false, 3), (true, 2), (false, 0), (false, 2), (true, 1)])).1
    = [1/3, 1/3, 1/3, 3/5, 3/5, 3/5, 3/5, 4/5] := by
  decide +kernel

/-- an uncapped staircase: T×10, D×3, T×1 -/
example : (qRle id [(false, 10), (true, 3), (false, 1)]).1 = [(1/10, 10), (1/5, 1), (3/10, 1), (4/11, 1), (4/11, 1)] := by
  decide +kernel

theorem rne_eq (n s : Nat) :
    ∃ e, rne n s = (n / 2 ^ s + e) * 2 ^ s ∧
      (e = 0 ∧ 2 * (n % 2 ^ s) ≤ 2 ^ s ∨ e = 1 ∧ 2 ^ s ≤ 2 * (n % 2 ^ s)) := by
  unfold rne
  simp only
  split
  · next h => exact ⟨0, rfl, .inl ⟨rfl, h.le⟩⟩
  · split
    · next h => exact ⟨1, rfl, .inr ⟨rfl, h.le⟩⟩
    · next h1 h2 =>
      rcases Nat.mod_two_eq_zero_or_one (n / 2 ^ s) with h | h
      · exact ⟨0, by rw [h], .inl ⟨rfl, Nat.le_of_not_lt h2⟩⟩
      · exact ⟨1, by rw [h], .inr ⟨rfl, Nat.le_of_not_lt h1⟩⟩

theorem rne_dvd (n s : Nat) : 2 ^ s ∣ rne n s := by
  obtain ⟨e, h, _⟩ := rne_eq n s
  exact h ▸ Nat.dvd_mul_left ..

theorem rne_close (n s : Nat) : 2 * rne n s ≤ 2 * n + 2 ^ s ∧ 2 * n ≤ 2 * rne n s + 2 ^ s := by
  obtain ⟨e, h, he⟩ := rne_eq n s
  have hn := Nat.div_add_mod' n (2 ^ s)
  have hr := Nat.mod_lt n (Nat.two_pow_pos s)
  rw [h, Nat.add_mul]
  generalize n / 2 ^ s * 2 ^ s = a at hn ⊢
  generalize n % 2 ^ s = r at hn hr he
  generalize 2 ^ s = P at hr he ⊢
  clear h
  rcases he with ⟨rfl, _⟩ | ⟨rfl, _⟩ <;> omega

theorem rne_mono {s n n' : Nat} (h : n ≤ n') : rne n s ≤ rne n' s := by
  rcases Nat.eq_or_lt_of_le h with rfl | hlt
  · exact le_refl _
  · by_contra hc
    -- two multiples of `2^s` in the wrong order are a whole step apart: too far, both being within
    -- half a step of `n < n'`
    have := Nat.le_of_dvd (Nat.sub_pos_of_lt (Nat.lt_of_not_le hc)) (Nat.dvd_sub (rne_dvd n s) (rne_dvd n' s))
    have := (rne_close n s).1
    have := (rne_close n' s).2
    omega

theorem rne_of_dvd {n s : Nat} (h : 2 ^ s ∣ n) : rne n s = n := by
  unfold rne
  rw [Nat.mod_eq_zero_of_dvd h, if_pos (Nat.two_pow_pos s), Nat.div_mul_cancel h]

/-- **C12.r24_small** — up to 2²⁴ the conversion `as f32` is exact -/
theorem r24_small (n : Nat) (h : n ≤ 2 ^ 24) : r24 n = n := by
  rcases Nat.lt_or_eq_of_le h with h | rfl
  · have : n.log2 - 23 = 0 := by
      by_cases h0 : n = 0
      · subst h0; rfl
      · have := (Nat.log2_lt h0 (k := 24)).mpr h; omega
    exact rne_of_dvd (this ▸ Nat.one_dvd n)
  · decide +kernel

/-- the conversion stays within the binade of `n`: its two ends are multiples of the step, hence fixed,
    and rounding is monotone -/
theorem r24_bounds (n : Nat) (hn : n ≠ 0) : 2 ^ n.log2 ≤ r24 n ∧ r24 n ≤ 2 ^ (n.log2 + 1) := by
  have fix (k : Nat) (hk : n.log2 ≤ k) : rne (2 ^ k) (n.log2 - 23) = 2 ^ k :=
    rne_of_dvd (Nat.pow_dvd_pow 2 ((Nat.sub_le _ 23).trans hk))
  constructor
  · rw [← fix _ (le_refl _)]; exact rne_mono (Nat.log2_self_le hn)
  · rw [← fix _ (Nat.le_succ _)]; exact rne_mono Nat.lt_log2_self.le

/-- **C12.r24_mono** — the conversion is monotone -/
theorem r24_mono (n n' : Nat) (h : n ≤ n') : r24 n ≤ r24 n' := by
  by_cases h0 : n = 0
  · subst h0; rw [r24_small 0 (Nat.zero_le _)]; exact Nat.zero_le _
  · have h0' : n' ≠ 0 := by omega
    have hl : n.log2 ≤ n'.log2 := (Nat.le_log2 h0').mpr (le_trans (Nat.log2_self_le h0) h)
    rcases Nat.lt_or_eq_of_le hl with hlt | heq
    · exact le_trans (r24_bounds n h0).2 (le_trans (Nat.pow_le_pow_right (by omega) hlt) (r24_bounds n' h0').1)
    · unfold r24; rw [heq]; exact rne_mono h

/-- **C12.r24_close** — the conversion changes a counter by at most a relative 2⁻²⁴ -/
theorem r24_close (n : Nat) : 2 ^ 24 * r24 n ≤ (2 ^ 24 + 1) * n ∧ (2 ^ 24 - 1) * n ≤ 2 ^ 24 * r24 n := by
  by_cases he : n < 2 ^ 24
  · rw [r24_small n he.le]; omega
  · have hn : n ≠ 0 := by omega
    have lo := Nat.log2_self_le hn
    have hlog : 23 ≤ n.log2 := (Nat.le_log2 hn).mpr (by omega)
    -- half a step `2^(log2 n - 23)` is at most `n / 2²⁴`
    rw [← Nat.add_sub_cancel' hlog, Nat.pow_add] at lo
    obtain ⟨c1, c2⟩ := rne_close n (n.log2 - 23)
    unfold r24
    generalize rne n (n.log2 - 23) = r at c1 c2 ⊢
    generalize 2 ^ (n.log2 - 23) = P at lo c1 c2
    omega

theorem quotient_close {a x y X Y : Rat} (ha : 1 < a) (hx : 0 ≤ x) (hy : 0 < y) (hX : 0 ≤ X) (hY : 0 < Y)
    (x1 : a * X ≤ (a + 1) * x) (x2 : (a - 1) * x ≤ a * X) (y1 : a * Y ≤ (a + 1) * y) (y2 : (a - 1) * y ≤ a * Y) :
    (a - 1) / (a + 1) * (x / y) ≤ X / Y ∧ X / Y ≤ (a + 1) / (a - 1) * (x / y) := by
  have h0 : 0 < a := one_pos.trans ha
  -- write `X / Y` as `(a * X) / (a * Y)` and compare numerators and denominators
  rw [div_mul_div_comm, div_mul_div_comm, ← mul_div_mul_left X Y h0.ne']
  exact ⟨div_le_div₀ (mul_nonneg h0.le hX) x2 (mul_pos h0 hY) y1,
    div_le_div₀ (mul_nonneg (add_nonneg h0.le zero_le_one) hx) x1 (mul_pos (sub_pos.mpr ha) hy) y2⟩

/-- **C12.ratio_r24_close** — what the conversion does to one FDR estimate: the quotient of the two
    converted tallies lies within a relative (2²⁴+1)/(2²⁴−1) ≈ 1 ± 2⁻²³ of the exact quotient. The code's
    division itself, correctly rounded in f32, is applied by the driver. -/
theorem ratio_r24_close (d t : Nat) (hd : 0 < d) (ht : 0 < t) :
    ((2 ^ 24 - 1 : Rat) / (2 ^ 24 + 1)) * ((d : Rat) / t) ≤ (r24 d : Rat) / (r24 t) ∧
    (r24 d : Rat) / (r24 t) ≤ ((2 ^ 24 + 1 : Rat) / (2 ^ 24 - 1)) * ((d : Rat) / t) := by
  obtain ⟨d1, d2⟩ := r24_close d
  obtain ⟨t1, t2⟩ := r24_close t
  have c : ((2 ^ 24 - 1 : Nat) : Rat) = 2 ^ 24 - 1 := by norm_num
  refine quotient_close (by norm_num) (Nat.cast_pos.mpr hd).le (Nat.cast_pos.mpr ht) (Nat.cast_nonneg _)
    (Nat.cast_pos.mpr ((Nat.two_pow_pos _).trans_le (r24_bounds t ht.ne').1))
    (by exact_mod_cast d1) ?_ (by exact_mod_cast t1) ?_
  · rw [← c]; exact_mod_cast d2
  · rw [← c]; exact_mod_cast t2

/-- **C12.spectrumQC_r24_small** — for fewer than 2²⁴ PSMs the model with the `as f32` conversion of
    the tallies IS the exact model (every tally is ≤ 2²⁴, where the conversion is the identity) -/
theorem spectrumQC_r24_small (labels : List Bool) (h : labels.length < 2 ^ 24) :
    spectrumQC r24 labels = spectrumQ labels := by
  have e : (counts 1 0 labels).map (ratioC r24) = (counts 1 0 labels).map ratio := by
    apply List.map_congr_left
    intro c hc
    have := (counts_bounds 1 0 labels c hc).2
    unfold ratioC
    rw [r24_small c.1 (by omega), r24_small c.2 (by omega)]
  unfold spectrumQC spectrumQ
  rw [e]

/-- **C12.qRle_r24** — the RLE model with the code's conversion expands to the list model with the
    code's conversion -/
theorem qRle_r24 (runs : List (Bool × Nat)) :
    expandRuns (qRle r24 runs).1 = (spectrumQC r24 (expand runs)).1 ∧
    (qRle r24 runs).2 = (spectrumQC r24 (expand runs)).2 :=
  qRle_eq r24 r24_mono runs

/-- non-vacuity of the conversion: exact up to 2²⁴, then ties go to the even neighbour -/
example : r24 (2 ^ 24 + 1) = 2 ^ 24 ∧ r24 (2 ^ 24 + 2) = 2 ^ 24 + 2 ∧ r24 (2 ^ 24 + 3) = 2 ^ 24 + 4
    ∧ r24 (2 ^ 25 + 2) = 2 ^ 25 ∧ r24 (2 ^ 25 + 6) = 2 ^ 25 + 8 ∧ r24 (2 ^ 31 - 1) = 2 ^ 31 := by decide +kernel

/-- 2²⁴ + 2 targets, no decoy: one piece, q = 1/16777218 (the saturating-f32-tally mutant gives 1/16777216) -/
example : (qRle r24 [(false, 2 ^ 24 + 2)]).1 = [(1 / 16777218, 16777218)] := by
  decide +kernel

end Sage.C12
