import SageModel.Model.C04
import SageModel.Props.C03
import Mathlib.Data.List.Basic
import Mathlib.Data.List.Induction
import Mathlib.Algebra.Order.Field.Rat
import Mathlib.Tactic.Ring

/-!
# C04 — Every PSM feature equals its definition recomputed from spectrum and peptide

Property text: *Each reported PSM's matched-peak count, matched b/y intensity and intensity percentage,
hyperscore, longest consecutive b- and y-ion runs, fragment ppm error, precursor ppm error, isotope error,
candidate count and, when requested, annotated fragment list equal the values obtained by matching every
theoretical fragment of the reported peptide (all configured ion kinds, fragment charges 1..limit) against the
processed spectrum with the most-intense-peak-within-tolerance rule. A theoretical fragment counts as matched
if and only if some peak lies within the fragment tolerance of it, and the hyperscore is the pinned function
ln((Ib+1)(Iy+1)) + lnfact(nb) + lnfact(ny) of those counts and intensities.*

All theorems are about the definitions of `SageModel/Model/C04.lean` (the model of
`select_most_intense_peak`, `Run::matched`, `Scorer::score_candidate`, `ScoreType::score`), for every
spectrum of every size, every peptide / ion list, every set of kinds and every charge limit: peak selection
for an arbitrary linear order of masses/intensities; counts, sums and scores for EVERY arithmetic environment
`Env α β` (so in particular every `ln`, and also the `Float32`/`Float` environment the driver runs: the sums
are stated as left folds in the enumeration order, no commutativity or associativity is used); the ladder
counter for every index sequence (several kinds feeding one terminus share one `Run`).

Not covered by theorems (compared through the correspondence only): IEEE rounding, the order of the f32
sums being irrelevant, the preliminary pass (`prelim`, C02/C03's subject) and the closed-form derived fields of
`build_features` (`feature`), which are the definition itself (`feature_spec` puts the naive counts into it).
-/

namespace Sage.C04

open Sage.C09 (Kind)

variable {α β : Type}

structure PickInv [LinearOrder α] (zero : α) (P : List (Peak α)) (st : α × Option (Peak α)) : Prop where
  ge : ∀ q ∈ P, q.intensity ≤ st.1
  noneEmpty : st.2 = none → P = [] ∧ st.1 = zero
  someMem : ∀ p, st.2 = some p → p ∈ P ∧ st.1 = p.intensity

theorem pickInv_foldl [LinearOrder α] (zero : α) (l : List (Peak α)) (hnn : ∀ p ∈ l, zero ≤ p.intensity) :
    PickInv zero l (l.foldl pick (zero, none)) := by
  induction l using List.reverseRec with
  | nil => exact ⟨fun _ h => (nomatch h), fun _ => ⟨rfl, rfl⟩, fun _ h => (nomatch h)⟩
  | append_singleton P x ih =>
    rw [List.forall_mem_append, List.forall_mem_singleton] at hnn
    have inv := ih hnn.1
    rw [List.foldl_concat, pick]
    split
    next h =>
      exact ⟨List.forall_mem_append.mpr ⟨fun q hq => (inv.ge q hq).trans h, List.forall_mem_singleton.mpr le_rfl⟩,
        fun hn => (nomatch hn),
        fun p hp => Option.some.inj hp ▸ ⟨List.mem_append_right _ (List.mem_singleton_self x), rfl⟩⟩
    next h =>
      -- the start value cannot still be in place: it is `≤ x.intensity`
      exact ⟨List.forall_mem_append.mpr ⟨inv.ge, List.forall_mem_singleton.mpr (lt_of_not_ge h).le⟩,
        fun hn => absurd ((inv.noneEmpty hn).2.trans_le hnn.2) h,
        fun p hp => ⟨List.mem_append_left _ (inv.someMem p hp).1, (inv.someMem p hp).2⟩⟩

theorem selectFrom_spec [LinearOrder α] (zero : α) (l : List (Peak α)) (hnn : ∀ p ∈ l, zero ≤ p.intensity) :
    (selectFrom zero l = none ↔ l = []) ∧
    ∀ p, selectFrom zero l = some p → p ∈ l ∧ ∀ q ∈ l, q.intensity ≤ p.intensity := by
  have inv := pickInv_foldl zero l hnn
  exact ⟨⟨fun h => (inv.noneEmpty h).1, fun h => h ▸ rfl⟩,
    fun p hp => ⟨(inv.someMem p hp).1, fun q hq => (inv.someMem p hp).2 ▸ inv.ge q hq⟩⟩

theorem maxInt_concat [LE α] [DecidableLE α] (l : List α) (x : α) : maxInt (l ++ [x]) = maxStep (maxInt l) x :=
  List.foldl_concat ..

theorem foldl_pick_eq [Preorder α] [DecidableLE α] (zero : α) (w : List (Peak α))
    (hnn : ∀ p ∈ w, zero ≤ p.intensity) :
    w.foldl pick (zero, none) =
      ((maxInt (w.map (·.intensity))).getD zero,
       match maxInt (w.map (·.intensity)) with
       | none => none
       | some m => w.reverse.find? fun p => decide (m ≤ p.intensity)) := by
  induction w using List.reverseRec with
  | nil => rfl
  | append_singleton w x ih =>
    rw [List.forall_mem_append, List.forall_mem_singleton] at hnn
    rw [List.foldl_concat, ih hnn.1, List.map_append, List.map_singleton, maxInt_concat, List.reverse_concat', pick]
    cases maxInt (w.map (·.intensity)) with
    | none => simp [maxStep, hnn.2]
    | some m => by_cases hmx : m ≤ x.intensity <;> simp [maxStep, hmx]

theorem inWin_iff [LE α] [DecidableLE α] {lo hi : α} {p : Peak α} :
    inWin lo hi p = true ↔ lo ≤ p.mass ∧ p.mass ≤ hi := by
  simp only [inWin, Bool.and_eq_true, decide_eq_true_eq]

theorem selectWin_eq_filter [LinearOrder α] (zero : α) (peaks : Array (Peak α)) (lo hi : α)
    (hs : Sage.C03.SortedArr (peaks.map (·.mass))) :
    selectWin zero peaks lo hi = selectFrom zero (peaks.toList.filter (inWin lo hi)) := by
  refine congrArg (selectFrom zero) (filter_drop_take _ _ _ _ fun k x hk hp => ?_)
  have hk' : (peaks.map (·.mass))[k]? = some x.mass := by
    rw [Array.getElem?_map, ← Array.getElem?_toList, hk]; rfl
  exact Sage.C03.bssWith_covers Sage.C03.binSearch Sage.C03.binSearch_ok _ hs lo hi k x.mass hk'
    (inWin_iff.mp hp).1 (inWin_iff.mp hp).2

/-- **C04.select_spec** — `select_most_intense_peak` on an explicit window `[lo, hi]`, for every peak list
sorted by mass whose intensities are `≥ zero` (the hypothesis the `max_int = 0.0` start value forces; `zero` is
that start value): it returns `None` if and only if NO peak lies in the window — i.e. a fragment is matched iff
some peak lies within the tolerance — and a returned peak is a peak of the spectrum, lies in the window, and no
peak in the window is more intense. The binary search only narrows the scan; it never loses a peak. -/
theorem select_spec [LinearOrder α] (zero : α) (peaks : Array (Peak α)) (lo hi : α)
    (hs : Sage.C03.SortedArr (peaks.map (·.mass))) (hnn : ∀ p ∈ peaks.toList, zero ≤ p.intensity) :
    (selectWin zero peaks lo hi = none ↔ ∀ p ∈ peaks.toList, ¬ (lo ≤ p.mass ∧ p.mass ≤ hi)) ∧
    (∀ p, selectWin zero peaks lo hi = some p →
      p ∈ peaks.toList ∧ lo ≤ p.mass ∧ p.mass ≤ hi ∧
      ∀ q ∈ peaks.toList, lo ≤ q.mass → q.mass ≤ hi → q.intensity ≤ p.intensity) := by
  have sp := selectFrom_spec zero (peaks.toList.filter (inWin lo hi)) fun p hp => hnn p (List.mem_filter.mp hp).1
  rw [selectWin_eq_filter zero peaks lo hi hs]
  constructor
  · rw [sp.1, List.filter_eq_nil_iff]
    exact forall₂_congr fun p _ => not_congr inWin_iff
  · intro p hp
    have hm := List.mem_filter.mp (sp.2 p hp).1
    exact ⟨hm.1, (inWin_iff.mp hm.2).1, (inWin_iff.mp hm.2).2,
      fun q hq h1 h2 => (sp.2 p hp).2 q (List.mem_filter.mpr ⟨hq, inWin_iff.mpr ⟨h1, h2⟩⟩)⟩

/-- `select_spec` for the public entry point: the window is `Tolerance::bounds(center)` shifted by the offset,
    whatever arithmetic the environment provides -/
theorem select_spec_tol [LinearOrder α] (E : Env α β) (peaks : Array (Peak α)) (center : α) (tol : Sage.C03.Tol α)
    (offset : Option α)
    (hs : Sage.C03.SortedArr (peaks.map (·.mass))) (hnn : ∀ p ∈ peaks.toList, E.ofNat 0 ≤ p.intensity) :
    let lo := E.add (tolBounds E tol center).1 (offset.getD (E.ofNat 0))
    let hi := E.add (tolBounds E tol center).2 (offset.getD (E.ofNat 0))
    (select E peaks center tol offset = none ↔ ∀ p ∈ peaks.toList, ¬ (lo ≤ p.mass ∧ p.mass ≤ hi)) ∧
    (∀ p, select E peaks center tol offset = some p →
      p ∈ peaks.toList ∧ lo ≤ p.mass ∧ p.mass ≤ hi ∧
      ∀ q ∈ peaks.toList, lo ≤ q.mass → q.mass ≤ hi → q.intensity ≤ p.intensity) :=
  select_spec (E.ofNat 0) peaks _ _ hs hnn

/-- non-vacuity: four peaks (masses 10, 20, 21, 30), window [15, 25]: the last of the two equally intense
    peaks (masses 20, 21) is returned; the hypothesis "intensities ≥ 0" is needed: with only a negative intensity in
    the window nothing is returned although a peak lies in it -/
def exPeaks : Array (Peak Nat) := #[⟨10, 9⟩, ⟨20, 5⟩, ⟨21, 5⟩, ⟨30, 7⟩]
example : Sage.C03.SortedArr (exPeaks.map (·.mass)) := Sage.C03.sortedAdj_sound _ (by decide +kernel)
example : selectWin 0 exPeaks 15 25 = some ⟨21, 5⟩ := by decide +kernel
example : selectWin 0 exPeaks 31 40 = none := by decide +kernel
example : selectFrom (0 : Int) [⟨20, -1⟩] = none := by decide +kernel

/-- **C04.select_eq_specSelect** — on a spectrum sorted by mass with intensities `≥ zero`,
`select_most_intense_peak` returns EXACTLY what the naive definition the driver evaluates on the
implementation's outputs returns: scan all peaks, keep those in the window, take the maximum intensity, return
the last peak attaining it (so the tie rule, which fixes the reported experimental m/z and ppm error, is part
of the equation). -/
theorem select_eq_specSelect [LinearOrder α] (zero : α) (peaks : Array (Peak α)) (lo hi : α)
    (hs : Sage.C03.SortedArr (peaks.map (·.mass))) (hnn : ∀ p ∈ peaks.toList, zero ≤ p.intensity) :
    selectWin zero peaks lo hi = specSelect peaks.toList lo hi := by
  rw [selectWin_eq_filter zero peaks lo hi hs]
  unfold selectFrom specSelect specWindow
  rw [foldl_pick_eq zero _ (fun p hp => hnn p (List.mem_filter.mp hp).1)]
  rfl

example : specSelect exPeaks.toList 15 25 = some ⟨21, 5⟩ := by decide +kernel

def Block (S : List Nat) (s len : Nat) : Prop := ∀ k, k < len → s + k ∈ S

structure RunInv (P : List Nat) (r : Run) : Prop where
  empty : P = [] → r = {}
  pos : P ≠ [] → 0 < r.length
  lastMem : P ≠ [] → r.last ∈ P
  lastMax : ∀ x ∈ P, x ≤ r.last
  span : P ≠ [] → r.start + r.length = r.last + 1
  cur : ∀ k, r.start ≤ k → k < r.start + r.length → k ∈ P
  leftEnd : ∀ k, k + 1 = r.start → P ≠ [] → k ∉ P
  lenLe : r.length ≤ r.longest
  attained : ∃ s, Block P s r.longest
  maximal : ∀ s len, Block P s len → len ≤ r.longest

theorem runInv_nil : RunInv [] {} where
  empty := fun _ => rfl
  pos := fun h => absurd rfl h
  lastMem := fun h => absurd rfl h
  lastMax := fun _ h => nomatch h
  span := fun h => absurd rfl h
  cur := fun _ _ h => absurd h (Nat.not_lt_zero _)
  leftEnd := fun _ _ h => absurd rfl h
  lenLe := Nat.le_refl _
  attained := ⟨0, fun _ h => absurd h (Nat.not_lt_zero _)⟩
  maximal := fun _ _ h => Nat.le_of_not_lt fun hl => nomatch h 0 hl

theorem block_mono {P Q : List Nat} (hPQ : ∀ k, k ∈ P → k ∈ Q) {s len : Nat} (h : Block P s len) : Block Q s len :=
  fun k hk => hPQ _ (h k hk)

theorem block_sub {P : List Nat} {s len s' len' : Nat} (h : Block P s len) (h1 : s ≤ s') (h2 : s' + len' ≤ s + len) :
    Block P s' len' := by
  obtain ⟨d, rfl⟩ := Nat.exists_eq_add_of_le h1
  rw [Nat.add_assoc] at h2
  intro k hk
  rw [Nat.add_assoc]
  exact h (d + k) (Nat.lt_of_lt_of_le (Nat.add_lt_add_left hk d) (Nat.le_of_add_le_add_left h2))

theorem Block.within {S : List Nat} {s len lo hi : Nat} (h : Block S s len) (hhi : ∀ y ∈ S, y < hi)
    (hlo : ∀ k, k + 1 = lo → k ∉ S) (hr : ∃ k, k < len ∧ lo ≤ s + k) : lo ≤ s ∧ s + len ≤ hi := by
  obtain ⟨k, hk, hks⟩ := hr
  constructor
  · by_contra hc
    obtain ⟨d, rfl⟩ := Nat.exists_eq_add_of_lt (Nat.lt_of_not_le hc)
    exact hlo (s + d) rfl (h d (Nat.lt_trans (Nat.lt_of_add_lt_add_left hks) hk))
  · obtain ⟨m, rfl⟩ := Nat.exists_eq_succ_of_ne_zero (Nat.ne_zero_of_lt hk)
    exact hhi _ (h m (Nat.lt_succ_self m))

theorem RunInv.congr {P Q : List Nat} {r : Run} (inv : RunInv P r) (h : ∀ k, k ∈ P ↔ k ∈ Q) : RunInv Q r := by
  have hnil : P = [] ↔ Q = [] := by simp only [List.eq_nil_iff_forall_not_mem, h]
  have hne : Q ≠ [] → P ≠ [] := mt hnil.mp
  exact {
    empty := fun hQ => inv.empty (hnil.mpr hQ)
    pos := fun hQ => inv.pos (hne hQ)
    lastMem := fun hQ => (h _).mp (inv.lastMem (hne hQ))
    lastMax := fun x hx => inv.lastMax x ((h x).mpr hx)
    span := fun hQ => inv.span (hne hQ)
    cur := fun k h1 h2 => (h k).mp (inv.cur k h1 h2)
    leftEnd := fun k hk hQ hm => inv.leftEnd k hk (hne hQ) ((h k).mpr hm)
    lenLe := inv.lenLe
    attained := inv.attained.imp fun s => block_mono fun k => (h k).mp
    maximal := fun s len hb => inv.maximal s len (block_mono (fun k => (h k).mpr) hb) }

/-- `lo, …, x` is the current ladder (`n + 1` indices), `L` the best length among the indices before `x`: extending
    a ladder (`lo` stays) and starting one (`lo = x`, `n = 0`) are both instances. -/
theorem runInv_snoc {P : List Nat} {x lo n L : Nat} (hlt : ∀ y ∈ P, y < x) (hn : lo + n = x)
    (hcur : ∀ k, lo ≤ k → k < x → k ∈ P) (hlo : ∀ k, k + 1 = lo → k ∉ P)
    (hatt : ∃ s, Block P s L) (hmax : ∀ s len, Block P s len → len ≤ L) :
    RunInv (P ++ [x]) ⟨lo, n + 1, x, max L (n + 1)⟩ := by
  have hmem : ∀ k, k ∈ P ++ [x] ↔ k ∈ P ∨ k = x := fun k => by
    rw [List.mem_append, List.mem_singleton]
  have hlox : lo ≤ x := hn ▸ Nat.le_add_right lo n
  have hle : ∀ y ∈ P ++ [x], y ≤ x := fun y hy => ((hmem y).mp hy).elim (fun h => (hlt y h).le) fun h => h.le
  have hlo' : ∀ k, k + 1 = lo → k ∉ P ++ [x] := fun k hk hm =>
    ((hmem k).mp hm).elim (hlo k hk) fun h => Nat.not_succ_le_self k ((hk.trans_le hlox).trans_eq h.symm)
  have cur : ∀ k, lo ≤ k → k < lo + (n + 1) → k ∈ P ++ [x] := fun k h1 h2 =>
    (hmem k).mpr ((Nat.lt_or_ge k x).imp (hcur k h1) (Nat.le_antisymm (hn ▸ Nat.le_of_lt_succ h2)))
  exact {
    empty := fun h => absurd h (List.append_ne_nil_of_right_ne_nil _ (List.cons_ne_nil x []))
    pos := fun _ => Nat.succ_pos n
    lastMem := fun _ => (hmem x).mpr (.inr rfl)
    lastMax := hle
    span := fun _ => congrArg (· + 1) hn
    cur := cur
    leftEnd := fun k hk _ => hlo' k hk
    lenLe := Nat.le_max_right ..
    attained := by
      show ∃ s, Block (P ++ [x]) s (max L (n + 1))
      rw [Nat.max_def]
      split
      · exact ⟨lo, fun k hk => cur _ (Nat.le_add_right ..) (Nat.add_lt_add_left hk lo)⟩
      · exact hatt.imp fun s => block_mono fun k hk => (hmem k).mpr (.inl hk)
    maximal := fun s len hb => by
      -- a block with an element `≥ lo` lies in `[lo, x]`; any other is a block of `P`
      by_cases hr : ∃ k, k < len ∧ lo ≤ s + k
      · obtain ⟨h1, h2⟩ := hb.within (fun y hy => Nat.lt_succ_of_le (hle y hy)) hlo' hr
        -- `s + len ≤ x + 1 = lo + n + 1 ≤ s + (n + 1)`
        exact Nat.le_trans (Nat.le_of_add_le_add_left (a := s)
          (h2.trans (hn ▸ Nat.succ_le_succ (Nat.add_le_add_right h1 n)))) (Nat.le_max_right ..)
      · exact Nat.le_trans
          (hmax s len fun k hk => ((hmem _).mp (hb k hk)).resolve_right fun h => hr ⟨k, hk, h ▸ hlox⟩)
          (Nat.le_max_left ..) }

theorem runInv_step {P : List Nat} {r : Run} {x : Nat} (inv : RunInv P r) (hx : ∀ y ∈ P, y ≤ x) :
    RunInv (P ++ [x]) (r.matched x) := by
  unfold Run.matched
  split
  next h =>
    -- repeated index: nothing new has been seen
    have hx : x ∈ P := h.2 ▸ inv.lastMem fun hP => Nat.ne_of_gt h.1 (congrArg Run.length (inv.empty hP))
    refine inv.congr fun k => ?_
    rw [List.mem_append, List.mem_singleton, iff_self_or]
    exact fun hk => hk ▸ hx
  next h =>
    have hlast : ∀ y ∈ P, y ≤ r.last ∧ r.last < x ∧ r.start + r.length = r.last + 1 := fun y hy =>
      have hP := List.ne_nil_of_mem hy
      ⟨inv.lastMax y hy, Nat.lt_of_le_of_ne (hx _ (inv.lastMem hP)) fun e => h ⟨inv.pos hP, e⟩, inv.span hP⟩
    have hlt : ∀ y ∈ P, y < x := fun y hy => Nat.lt_of_le_of_lt (hlast y hy).1 (hlast y hy).2.1
    have hlo : ∀ k, k + 1 = r.start → k ∉ P := fun k hk hm => inv.leftEnd k hk (List.ne_nil_of_mem hm) hm
    split
    next hext =>
      exact runInv_snoc hlt hext (fun k h1 h2 => inv.cur k h1 (hext ▸ h2)) hlo
        inv.attained inv.maximal
    next hnew =>
      refine runInv_snoc (n := 0) hlt rfl (fun k h1 h2 => absurd h2 (Nat.not_lt.mpr h1)) (fun k hk hm => ?_)
        inv.attained inv.maximal
      obtain ⟨h1, h2, h3⟩ := hlast k hm
      -- `k = r.last` (as `k ≤ r.last < x = k + 1`), so the current ladder would end just below `x`
      have hk1 : r.last = k := Nat.le_antisymm (Nat.le_of_lt_succ (hk.symm ▸ h2 : r.last < k + 1)) h1
      exact hnew (h3.trans ((congrArg (· + 1) hk1).trans hk))

theorem runInv_foldl {S P : List Nat} {r : Run} (inv : RunInv P r) (hs : (P ++ S).Pairwise (· ≤ ·)) :
    RunInv (P ++ S) (S.foldl Run.matched r) := by
  induction S generalizing P r with
  | nil => rwa [List.append_nil]
  | cons x S ih =>
    have hx : ∀ y ∈ P, y ≤ x := fun y hy => (List.pairwise_append.mp hs).2.2 y hy x (List.mem_cons_self ..)
    rw [List.append_cons] at hs ⊢
    exact ih (runInv_step inv hx) hs

theorem longest_foldl_le (S : List Nat) (r : Run) {k : Nat} (h1 : r.longest ≤ k) (h2 : r.length + S.length ≤ k) :
    (S.foldl Run.matched r).longest ≤ k := by
  induction S generalizing r with
  | nil => exact h1
  | cons x S ih =>
    rw [List.length_cons, Nat.add_comm S.length 1, ← Nat.add_assoc] at h2
    have h3 : r.length + 1 ≤ k := Nat.le_trans (Nat.le_add_right ..) h2
    rw [List.foldl_cons, Run.matched]
    split
    · exact ih _ h1 (Nat.le_trans (Nat.add_le_add_right (Nat.le_succ _) _) h2)
    · split
      · exact ih _ (Nat.max_le.mpr ⟨h1, h3⟩) h2
      · exact ih _ (Nat.max_le.mpr ⟨h1, Nat.le_trans (Nat.succ_le_succ (Nat.zero_le _)) h3⟩)
          (Nat.le_trans (Nat.add_le_add_right (Nat.succ_le_succ (Nat.zero_le _)) _) h2)

theorem longest_runFold_le (S : List Nat) : (runFold S).longest ≤ S.length :=
  longest_foldl_le S {} (Nat.zero_le _) (Nat.le_of_eq (Nat.zero_add _))

theorem isBlock_iff (S : List Nat) (s len : Nat) : isBlock S s len = true ↔ Block S s len := by
  unfold isBlock Block
  simp [List.all_eq_true]

theorem foldl_max_eq_iff {l : List Nat} {a L : Nat} : l.foldl max a = L ↔ L ∈ a :: l ∧ ∀ x ∈ a :: l, x ≤ L := by
  rw [← List.max?_eq_some_iff, List.max?_cons', Option.some_inj]

/-- **C04.run_spec** — feeding `Run::matched` ANY ascending index sequence with repeats (what `score_candidate`
produces for one kind per terminus: ion indices ascending, each repeated once per matched charge) leaves in
`longest` the length of the longest block of consecutive indices that all occur in the sequence: such a block
exists, and no longer one does. Index 0 counts: the model follows sage commit 82099c6, before which `Run::last`
started at 0, a match of ion index 0 was swallowed and `longest_b`/`longest_y` came out one short. -/
theorem run_spec (S : List Nat) (hs : S.Pairwise (· ≤ ·)) :
    (∃ s, Block S s (runFold S).longest) ∧ ∀ s len, Block S s len → len ≤ (runFold S).longest := by
  have inv : RunInv S (runFold S) := runInv_foldl runInv_nil hs
  exact ⟨inv.attained, inv.maximal⟩

/-- **C04.run_spec_exec** — the same statement against the EXECUTABLE definition the driver evaluates on the
implementation's outputs: `specLongest S` searches all block lengths `0..|S|` and all start indices in `S`. -/
theorem run_spec_exec (S : List Nat) (hs : S.Pairwise (· ≤ ·)) : (runFold S).longest = specLongest S := by
  obtain ⟨⟨s0, hatt⟩, hmax⟩ := run_spec S hs
  refine (foldl_max_eq_iff.mpr ⟨?_, List.forall_mem_cons.mpr ⟨Nat.zero_le _, fun len hlen => ?_⟩⟩).symm
  · rcases Nat.eq_zero_or_pos (runFold S).longest with h0 | h0
    · exact h0 ▸ List.mem_cons_self
    · refine List.mem_cons_of_mem _ (List.mem_filter.mpr
        ⟨List.mem_range.mpr (Nat.lt_succ_of_le (longest_runFold_le S)), ?_⟩)
      rw [List.any_eq_true]
      exact ⟨s0, hatt 0 h0, (isBlock_iff S s0 _).mpr hatt⟩
  · rw [List.mem_filter, List.any_eq_true] at hlen
    obtain ⟨_, s, _, hb⟩ := hlen
    exact hmax s len ((isBlock_iff S s len).mp hb)

example : specLongest [0, 0, 1, 1, 1, 2, 4, 5, 5, 7, 8, 9, 10] = 4 := by decide +kernel

example : (runFold [0, 1, 2]).longest = 3 := by decide
example : (runFold [0, 0, 1, 1, 1, 2, 4, 5, 5, 7, 8, 9, 10]).longest = 4 := by decide
example : [0, 0, 1, 2, 4].Pairwise (· ≤ ·) := by decide

theorem matched_default (x : Nat) : ({} : Run).matched x = ⟨x, 1, x, 1⟩ := by
  rw [Run.matched, if_neg fun h => Nat.lt_irrefl 0 h.1]
  split
  next h => subst h; rfl
  next => rfl

theorem ladderGo_add (len cur : Nat) (l : List Nat) : ladderGo len cur l = len + ladderGo 0 cur l := by
  induction l generalizing len cur with
  | nil => rfl
  | cons b t ih =>
    unfold ladderGo
    split
    · exact ih ..
    · split
      · rw [ih, ih (0 + 1), Nat.zero_add, Nat.add_assoc]
      · rfl

theorem ladderGo_zero_cons (a b : Nat) (t : List Nat) :
    ladderGo 0 a (b :: t) = if b = a then ladderGo 0 b t else if b = a + 1 then 1 + ladderGo 0 b t else 0 := by
  rw [ladderGo, ladderGo_add (0 + 1)]

theorem specLongestSeq_cons (a : Nat) (t : List Nat) :
    specLongestSeq (a :: t) = max (1 + ladderGo 0 a t) (specLongestSeq t) := by
  rw [specLongestSeq, ladderFrom, ladderGo_add]

theorem longest_foldl (l : List Nat) (s n a m : Nat) (hn : 0 < n) (hs : s + n = a + 1) (hm : n ≤ m) :
    (l.foldl Run.matched ⟨s, n, a, m⟩).longest = max m (max (n + ladderGo 0 a l) (specLongestSeq l)) := by
  induction l generalizing s n a m with
  | nil => exact (Nat.max_eq_left (Nat.max_le.mpr ⟨hm, Nat.zero_le _⟩)).symm
  | cons b t ih =>
    -- `omega` is very slow on nested `max`: in each case the two sides are brought to the same form by dropping a
    -- term that lies below its neighbour
    have drop : ∀ {x y : Nat} (z : Nat), x ≤ y → max x (max y z) = max y z :=
      fun z h => Nat.max_eq_right (Nat.le_trans h (Nat.le_max_left ..))
    rw [List.foldl_cons, specLongestSeq_cons, ladderGo_zero_cons]
    by_cases hb : b = a
    · rw [show Run.matched ⟨s, n, a, m⟩ b = ⟨s, n, a, m⟩ from if_pos ⟨hn, hb.symm⟩, ih s n a m hn hs hm,
        if_pos hb, hb, Nat.max_left_comm (n + _), drop _ (Nat.add_le_add_right hn _)]
    · have hne : ¬((⟨s, n, a, m⟩ : Run).length > 0 ∧ a = b) := fun h => hb h.2.symm
      rw [if_neg hb]
      by_cases hb' : b = a + 1
      · rw [show Run.matched ⟨s, n, a, m⟩ b = ⟨s, n + 1, b, max m (n + 1)⟩ from
            (if_neg hne).trans (if_pos (hs.trans hb'.symm)),
          ih s (n + 1) b _ (Nat.succ_pos n) (congrArg (· + 1) (hs.trans hb'.symm)) (Nat.le_max_right ..), if_pos hb',
          Nat.max_assoc, drop _ (Nat.le_add_right ..), Nat.max_left_comm (n + _), drop _ (Nat.le_add_left ..),
          Nat.add_assoc]
      · rw [show Run.matched ⟨s, n, a, m⟩ b = ⟨b, 1, b, max m 1⟩ from
            (if_neg hne).trans (if_neg fun h => hb' (h.symm.trans hs)),
          ih b 1 b _ Nat.one_pos rfl (Nat.le_max_right ..), if_neg hb',
          Nat.max_assoc, drop _ (Nat.le_add_right ..), Nat.add_zero, Nat.max_left_comm m n, drop _ hm]

/-- **C04.run_seq_spec** — what the ladder counter computes on an ARBITRARY index sequence (no order assumed):
the length of the longest ladder `s, s+1, s+2, …` that occurs as a CONTIGUOUS stretch of the sequence, adjacent
repeats allowed (`specLongestSeq`: from every start position walk on while the next index equals the current
one or its successor). On ascending sequences this is the longest block of consecutive indices
(`run_spec_exec`); on others it is not — `[3,0,1,2]` gives 3, `[0,1,2,3]` gives 4. -/
theorem run_seq_spec (S : List Nat) : (runFold S).longest = specLongestSeq S := by
  cases S with
  | nil => rfl
  | cons a t =>
    rw [runFold, List.foldl_cons, matched_default, longest_foldl t a 1 a 1 Nat.one_pos rfl (Nat.le_refl 1),
      specLongestSeq_cons]
    exact Nat.max_eq_right (Nat.le_trans (Nat.le_add_right 1 _) (Nat.le_max_left ..))

example : specLongestSeq [3, 0, 1, 2] = 3 ∧ specLongestSeq [0, 1, 2, 3] = 4 := by decide
example : (runFold [3, 0, 1, 2]).longest = 3 ∧ (runFold [0, 1, 2, 3]).longest = 4 := by decide
/-- two kinds each matched at indices 0,1 (charges repeated): the shared counter reports 2, and the block
    definition on the (unsorted) concatenation agrees here; with a: {0,1}, b: {2,3} it reports 4 although no
    single series has a ladder longer than 2 -/
example : specLongestSeq [0, 0, 1, 0, 1, 1] = 2 ∧ specLongestSeq [0, 1, 2, 2, 3] = 4 := by decide

def oneSeries (ks : Kind × List α) (mfc : Nat) : List (FZ α) :=
  ks.2.zipIdx.flatMap fun mj =>
    (List.range' 1 (mfc - 1)).map fun z => ({ kind := ks.1, idx := mj.2, ion := mj.1, charge := z } : FZ α)

theorem fragCharges_cons (ks : Kind × List α) (rest : List (Kind × List α)) (mfc : Nat) :
    fragCharges (ks :: rest) mfc = oneSeries ks mfc ++ fragCharges rest mfc := by
  simp [fragCharges, oneSeries]

theorem oneSeries_kind (ks : Kind × List α) (mfc : Nat) : ∀ f ∈ oneSeries ks mfc, f.kind = ks.1 := by
  intro f hf
  simp only [oneSeries, List.mem_flatMap, List.mem_map] at hf
  obtain ⟨_, _, _, _, rfl⟩ := hf
  rfl

theorem oneSeries_sorted (ks : Kind × List α) (mfc : Nat) : ((oneSeries ks mfc).map (·.idx)).Pairwise (· ≤ ·) := by
  rw [oneSeries, List.pairwise_map, List.pairwise_flatMap]
  constructor
  · intro mj _
    rw [List.pairwise_map]
    exact List.pairwise_of_forall fun _ _ => Nat.le_refl _
  · have := List.pairwise_le_range' (s := 0) (n := ks.2.length)
    rw [← List.zipIdx_map_snd, List.pairwise_map] at this
    refine this.imp fun h x hx y hy => ?_
    obtain ⟨_, _, rfl⟩ := List.mem_map.mp hx
    obtain ⟨_, _, rfl⟩ := List.mem_map.mp hy
    exact h

theorem filter_fragCharges (P : Kind → Bool) (series : List (Kind × List α)) (mfc : Nat) :
    (fragCharges series mfc).filter (fun f => P f.kind) = fragCharges (series.filter fun ks => P ks.1) mfc := by
  induction series with
  | nil => rfl
  | cons ks rest ih =>
    rw [fragCharges_cons, List.filter_append, ih, List.filter_cons]
    cases hk : P ks.1
    · rw [List.filter_eq_nil_iff.mpr fun f hf => by rw [oneSeries_kind ks mfc f hf, hk]; exact Bool.false_ne_true]
      rfl
    · rw [List.filter_eq_self.mpr fun f hf => by rw [oneSeries_kind ks mfc f hf, hk], if_pos rfl, fragCharges_cons]

theorem specMatches_append (E : Env α β) (sel : α → Option (Peak α)) (a b : List (FZ α)) :
    specMatches E sel (a ++ b) = specMatches E sel a ++ specMatches E sel b := by
  simp [specMatches, List.filterMap_append]

theorem specMatches_map_fz {γ : Type} (E : Env α β) (sel : α → Option (Peak α)) (g : FZ α → γ)
    (l : List (FZ α)) :
    (specMatches E sel l).map (fun m => g m.fz) = (l.filter fun f => (sel (mzOf E f)).isSome).map g := by
  induction l with
  | nil => rfl
  | cons f t ih =>
    rw [specMatches, List.filterMap_cons, List.filter_cons]
    cases sel (mzOf E f)
    · exact ih
    · exact congrArg (g f :: ·) ih

theorem specMatches_filter (E : Env α β) (sel : α → Option (Peak α)) (P : FZ α → Bool) (l : List (FZ α)) :
    (specMatches E sel l).filter (fun m => P m.fz) = specMatches E sel (l.filter P) := by
  rw [specMatches, specMatches, List.filter_filterMap, List.filterMap_filter]
  congr 1
  funext f
  cases sel (mzOf E f) <;> cases h : P f <;> simp [h]

theorem sorted_idx (E : Env α β) (sel : α → Option (Peak α)) (P : Kind → Bool) (series : List (Kind × List α))
    (mfc : Nat) (h : (series.filter (fun ks => P ks.1)).length ≤ 1) :
    (((specMatches E sel (fragCharges series mfc)).filter (fun m => P m.fz.kind)).map (·.fz.idx)).Pairwise (· ≤ ·) := by
  rw [specMatches_filter E sel (fun f => P f.kind), specMatches_map_fz E sel (·.idx), filter_fragCharges]
  refine List.Pairwise.sublist (List.filter_sublist.map _) ?_
  generalize series.filter (fun ks => P ks.1) = l at h
  obtain _ | ⟨ks, _ | ⟨_, _⟩⟩ := l
  · exact .nil
  · rw [fragCharges_cons, show fragCharges [] mfc = [] from rfl, List.append_nil]
    exact oneSeries_sorted ks mfc
  · exact absurd h (by simp)

/-- **C04.idx_concat** — the index sequence fed to one terminus' counter is the CONCATENATION, in the order the
kinds are configured, of the matched ion indices of each configured kind of that terminus (each ascending, each
index repeated once per matched charge): with several kinds per terminus the sequence restarts at every kind,
and the order of `ion_kinds` matters. -/
theorem idx_concat (E : Env α β) (sel : α → Option (Peak α)) (P : Kind → Bool) (series : List (Kind × List α)) (mfc : Nat) :
    ((specMatches E sel (fragCharges series mfc)).filter (fun m => P m.fz.kind)).map (·.fz.idx) =
    series.flatMap (fun ks => if P ks.1 then (specMatches E sel (oneSeries ks mfc)).map (·.fz.idx) else []) := by
  rw [specMatches_filter E sel (fun f => P f.kind), filter_fragCharges]
  induction series with
  | nil => rfl
  | cons ks rest ih =>
    rw [List.filter_cons, List.flatMap_cons, ← ih]
    cases P ks.1
    · rfl
    · rw [if_pos rfl, if_pos rfl, fragCharges_cons, specMatches_append, List.map_append]

/-- the loop state reached from `st0`, expressed through the matched set of the visited pairs -/
def after (E : Env α β) (n : Nat) (annotate : Bool) (st0 : St α) (ms : List (Match α)) : St α :=
  let b := ms.filter (·.fz.kind.isN)
  let y := ms.filter (fun m => !m.fz.kind.isN)
  { matchedB := st0.matchedB + b.length
    matchedY := st0.matchedY + y.length
    summedB := (b.map (·.peak.intensity)).foldl E.add st0.summedB
    summedY := (y.map (·.peak.intensity)).foldl E.add st0.summedY
    ppm := (ms.map fun m => ppmTerm E (mzOf E m.fz) m.peak).foldl E.add st0.ppm
    bRun := (b.map (·.fz.idx)).foldl Run.matched st0.bRun
    yRun := (y.map (·.fz.idx)).foldl Run.matched st0.yRun
    ann := st0.ann ++ (if annotate then ms.map (fun m => annRow E n m.fz m.peak) else []) }

theorem foldl_step (E : Env α β) (sel : α → Option (Peak α)) (n : Nat) (annotate : Bool)
    (fzs : List (FZ α)) (st0 : St α) :
    fzs.foldl (step E sel n annotate) st0 = after E n annotate st0 (specMatches E sel fzs) := by
  induction fzs generalizing st0 with
  | nil => cases st0; cases annotate <;> simp [specMatches, after]
  | cons f fzs ih =>
    rw [List.foldl_cons, ih]
    cases hs : sel (mzOf E f) with
    | none => simp [step, specMatches, hs]
    | some p =>
      have h2 : specMatches E sel (f :: fzs) = { fz := f, peak := p } :: specMatches E sel fzs := by
        simp [specMatches, hs]
      rw [h2]
      cases hk : f.kind.isN <;> cases annotate <;>
        simp [step, hs, hk, after, Nat.add_assoc, Nat.add_comm 1]

/-- **C04.counts_spec** — for every arithmetic environment, every peak-selection function `sel`, every list
of (kind, ion index, ion, charge) tuples, and both `annotate` settings: after the double loop of
`score_candidate` the accumulators are exactly the naive values over the MATCHED SET
(`specMatches` = the visited (ion, charge) pairs for which `sel` finds a peak, with that peak):
`matched_b`/`matched_y` count the matched pairs of a/b/c resp. x/y/z kind, `summed_b`/`summed_y` sum their
intensities, the ppm numerator sums `int·|mz − mass|·2e6/(mz + mass)`, the two ladder counters have been fed
the matched ion indices of their terminus in order, and there is one annotation row per matched pair (kind,
charge, ordinal `idx+1` resp. `n−1−idx`, intensity, `mz+PROTON`, `mass+PROTON`), none when annotation is off. -/
theorem counts_spec (E : Env α β) (sel : α → Option (Peak α)) (n : Nat) (annotate : Bool) (fzs : List (FZ α)) :
    let st := loop E sel n annotate fzs
    let v : SpecVals α β := specVals E n (specMatches E sel fzs)
    st.matchedB = v.nb ∧ st.matchedY = v.ny ∧ st.summedB = v.ib ∧ st.summedY = v.iy ∧ st.ppm = v.ppmNum ∧
    st.bRun = runFold v.idxB ∧ st.yRun = runFold v.idxY ∧
    st.ann = (if annotate then v.rows else []) := by
  simp only [loop, foldl_step, after, St.init, specVals, sumFrom, runFold]
  simp

/-- **C04.scoreCandidate_spec** — `counts_spec` carried through the tail of `score_candidate`: every field of the
returned `Score` (and the `Fragments`) is the naive value over the matched set of the enumeration
kinds × ions × charges `1..max_fragment_charge−1`; `longest_b/y` are the ladder counter run over the matched ion
indices of the terminus (`run_spec` says what that is); `ppm_difference` is the numerator sum divided by
`summed_b + summed_y`. -/
theorem scoreCandidate_spec (E : Env α β) (sel : α → Option (Peak α)) (series : List (Kind × List α))
    (n mfc : Nat) (openms annotate : Bool) :
    let s := scoreCandidate E sel series n mfc openms annotate
    let v : SpecVals α β := specVals E n (specMatches E sel (fragCharges series mfc))
    s.matchedB = v.nb ∧ s.matchedY = v.ny ∧ s.summedB = v.ib ∧ s.summedY = v.iy ∧
    s.longestB = (runFold v.idxB).longest ∧ s.longestY = (runFold v.idxY).longest ∧
    s.ppm = E.div v.ppmNum (E.add v.ib v.iy) ∧
    s.ann = (if annotate then some v.rows else none) := by
  obtain ⟨h1, h2, h3, h4, h5, h6, h7, h8⟩ := counts_spec E sel n annotate (fragCharges series mfc)
  simp only [scoreCandidate, finish, h1, h2, h3, h4, h5, h6, h7, h8]
  cases annotate <;> simp

/-- **C04.matched_partition** — the two counters `matched_b` / `matched_y` PARTITION the matched set: their sum
is exactly the number of visited theoretical (ion, charge) pairs for which `select_most_intense_peak` returns a
peak — "a theoretical fragment counts as matched if and only if some peak lies within the tolerance" at the
level of the reported `matched_peaks` (with `select_spec`: `sel … = none` iff no peak lies in the window) — so
no fragment is counted twice, under both termini, or dropped. -/
theorem matched_partition (E : Env α β) (sel : α → Option (Peak α)) (series : List (Kind × List α))
    (n mfc : Nat) (openms annotate : Bool) :
    let s := scoreCandidate E sel series n mfc openms annotate
    s.matchedB + s.matchedY = (specMatches E sel (fragCharges series mfc)).length ∧
    s.matchedB + s.matchedY = ((fragCharges series mfc).filter fun f => (sel (mzOf E f)).isSome).length ∧
    s.matchedB + s.matchedY ≤ (fragCharges series mfc).length := by
  obtain ⟨h1, h2, -⟩ := scoreCandidate_spec E sel series n mfc openms annotate
  have hsum := (congrArg₂ (· + ·) h1 h2).trans (List.length_eq_length_filter_add _).symm
  have hlen := congrArg List.length (specMatches_map_fz E sel id (fragCharges series mfc))
  rw [List.length_map, List.length_map] at hlen
  exact ⟨hsum, hsum.trans hlen, (hsum.trans hlen).trans_le (List.length_filter_le _ _)⟩

/-- **C04.longest_le_matched** — the reported ladder lengths never exceed the matched counts of their terminus
(each ladder step consumes at least one matched (ion, charge) pair of that terminus). -/
theorem longest_le_matched (E : Env α β) (sel : α → Option (Peak α)) (series : List (Kind × List α))
    (n mfc : Nat) (openms annotate : Bool) :
    let s := scoreCandidate E sel series n mfc openms annotate
    s.longestB ≤ s.matchedB ∧ s.longestY ≤ s.matchedY := by
  obtain ⟨h1, h2, -, -, h5, h6, -⟩ := scoreCandidate_spec E sel series n mfc openms annotate
  simp only
  rw [h1, h2, h5, h6]
  exact ⟨(longest_runFold_le _).trans_eq (List.length_map _), (longest_runFold_le _).trans_eq (List.length_map _)⟩

/-- **C04.hyperscore_def** — for EVERY environment (every `ln`, every arithmetic) the hyperscore
`score_candidate` stores (score type `SageHyperScore`) is the pinned function
`ln((Ib+1)·(Iy+1)) + lnfact(nb) + lnfact(ny)` of the naive counts `nb, ny` and intensity sums `Ib, Iy` of the
matched set, with `lnfact 0 = 1.0` and Stirling's formula otherwise (`lnfact_def`), replaced by `255` when it
is not finite (`guard255_def`). -/
theorem hyperscore_def (E : Env α β) (sel : α → Option (Peak α)) (series : List (Kind × List α))
    (n mfc : Nat) (annotate : Bool) :
    let v : SpecVals α β := specVals E n (specMatches E sel (fragCharges series mfc))
    (scoreCandidate E sel series n mfc false annotate).hyperscore = specHyperscore E v.nb v.ny v.ib v.iy := by
  obtain ⟨h1, h2, h3, h4, -⟩ := counts_spec E sel n annotate (fragCharges series mfc)
  simp only [scoreCandidate, finish, scoreOf, specHyperscore, h1, h2, h3, h4]
  simp

/-- the guard of `ScoreType::score`: a finite score is kept, anything else becomes `255` -/
theorem guard255_def (E : Env α β) (s : β) :
    (E.isFinite s = true → guard255 E s = s) ∧ (E.isFinite s = false → guard255 E s = E.ofNatD 255) := by
  unfold guard255; constructor <;> intro h <;> simp [h]

/-- `lnfact` as the code has it: `1.0` (not `0.0`) at `0`, Stirling's approximation
    `n·ln n − n + ½·ln n + ½·ln(2π·n)` above -/
theorem lnfact_def (E : Env α β) (n : Nat) :
    lnfact E 0 = E.ofNatD 1 ∧
    (0 < n → lnfact E n =
      E.addD (E.addD (E.subD (E.mulD (E.ofNatD n) (E.ln (E.ofNatD n))) (E.ofNatD n)) (E.mulD E.half (E.ln (E.ofNatD n))))
        (E.mulD E.half (E.ln (E.mulD (E.mulD E.pi (E.ofNatD 2)) (E.ofNatD n))))) := by
  constructor
  · simp [lnfact]
  · intro h
    simp [lnfact, Nat.ne_of_gt h]

/-- non-vacuity: a toy integer environment (`ln` = identity, everything finite), b ions 100/200/300 and
    y ions 150/250/350, peaks at 100, 200, 201 and 350, tolerance ±1, charge 1 only, annotation on:
    b0 and b1 matched (b1 to the more intense of its two peaks), y2 matched -/
def exEnv : Env Int Int :=
  { add := (· + ·), sub := (· - ·), mul := (· * ·), div := (· / ·), abs := fun x => (x.natAbs : Int), neg := fun x => -x,
    ofNat := fun n => (n : Int), proton := 1, neutron := 1, cast := id,
    addD := (· + ·), subD := (· - ·), mulD := (· * ·), divD := (· / ·), negD := fun x => -x,
    ofNatD := fun n => (n : Int), half := 1, pi := 3, tiny := 0, ln := id, exp := id, log10 := id, ln1p := id,
    isFinite := fun _ => true, isInf := fun _ => false }
def exSel (mz : Int) : Option (Peak Int) :=
  selectFrom 0 (([⟨100, 5⟩, ⟨200, 7⟩, ⟨201, 9⟩, ⟨350, 3⟩] : List (Peak Int)).filter (inWin (mz - 1) (mz + 1)))
def exSeries : List (Kind × List Int) := [(.b, [100, 200, 300]), (.y, [150, 250, 350])]
example : (fragCharges exSeries 2).length = 6 := by decide +kernel
example :
    let s := scoreCandidate exEnv exSel exSeries 4 2 false true
    s.matchedB = 2 ∧ s.matchedY = 1 ∧ s.summedB = 14 ∧ s.summedY = 3 ∧ s.longestB = 2 ∧ s.longestY = 1 ∧
    s.hyperscore = ((14 + 1) * (3 + 1) + lnfact exEnv 2 + lnfact exEnv 1) ∧
    (s.ann.map (·.map (fun a => (a.kind, a.charge, a.ordinal, a.intensity)))) =
      some [(.b, 1, 1, 5), (.b, 1, 2, 9), (.y, 1, 1, 3)] := by decide +kernel

/-- non-vacuity of `matched_partition`: 3 of the 6 theoretical fragments of the toy peptide have a peak -/
example : ((fragCharges exSeries 2).filter fun f => (exSel (mzOf exEnv f)).isSome).length = 3 := by decide +kernel

/-- **C04.longest_spec** — `run_spec` applied to the index sequence `score_candidate` really produces: when at
most one configured kind feeds a terminus' counter (the usual b+y, c+z, a+x … configurations), the reported
`longest_b` (`longest_y`) is the length of the longest block of consecutive ion indices each matched at some
charge — computed by the exhaustive search `specLongest` over the matched indices of that terminus. (With several
kinds per terminus the shared counter is fed restarting index sequences: `longest_seq_spec`.) -/
theorem longest_spec (E : Env α β) (sel : α → Option (Peak α)) (series : List (Kind × List α))
    (n mfc : Nat) (openms annotate : Bool)
    (hN : (series.filter (fun ks => ks.1.isN)).length ≤ 1)
    (hC : (series.filter (fun ks => !ks.1.isN)).length ≤ 1) :
    let s := scoreCandidate E sel series n mfc openms annotate
    let v : SpecVals α β := specVals E n (specMatches E sel (fragCharges series mfc))
    s.longestB = specLongest v.idxB ∧ s.longestY = specLongest v.idxY := by
  obtain ⟨-, -, -, -, h5, h6, -⟩ := scoreCandidate_spec E sel series n mfc openms annotate
  exact ⟨h5.trans (run_spec_exec _ (sorted_idx E sel (fun k => k.isN) series mfc hN)),
    h6.trans (run_spec_exec _ (sorted_idx E sel (fun k => !k.isN) series mfc hC))⟩

example : (exSeries.filter (fun ks => ks.1.isN)).length ≤ 1 ∧ (exSeries.filter (fun ks => !ks.1.isN)).length ≤ 1 := by decide

/-- **C04.longest_seq_spec** — for EVERY set of configured kinds (several per terminus included), every
environment and selector: the reported `longest_b` (`longest_y`) is the longest contiguous ladder
(`specLongestSeq`) of the concatenated per-kind matched-index sequences of that terminus (`idx_concat`). This is
what `longest_b` IS when a, b and c ions share one `Run`; it equals the longest block of consecutive matched
indices when only one kind feeds the counter (`longest_spec`). -/
theorem longest_seq_spec (E : Env α β) (sel : α → Option (Peak α)) (series : List (Kind × List α))
    (n mfc : Nat) (openms annotate : Bool) :
    let s := scoreCandidate E sel series n mfc openms annotate
    let v : SpecVals α β := specVals E n (specMatches E sel (fragCharges series mfc))
    s.longestB = specLongestSeq v.idxB ∧ s.longestY = specLongestSeq v.idxY := by
  obtain ⟨-, -, -, -, h5, h6, -⟩ := scoreCandidate_spec E sel series n mfc openms annotate
  exact ⟨h5.trans (run_seq_spec _), h6.trans (run_seq_spec _)⟩

/-- non-vacuity: a ions matched at index 2 only and b ions at 0,1 — kinds listed [a, b] vs [b, a] -/
def exSelAB (mz : Int) : Option (Peak Int) :=
  selectFrom 0 (([⟨100, 5⟩, ⟨200, 7⟩, ⟨1300, 9⟩] : List (Peak Int)).filter (inWin (mz - 1) (mz + 1)))
example :
    (scoreCandidate exEnv exSelAB [(.a, [1100, 1200, 1300]), (.b, [100, 200, 300])] 4 2 false false).longestB = 2 ∧
    (scoreCandidate exEnv exSelAB [(.b, [100, 200, 300]), (.a, [1100, 1200, 1300])] 4 2 false false).longestB = 3 := by
  decide +kernel

/-- **C04.feature_spec** — every closed-form column of a reported PSM equals its definition, for every
arithmetic environment: with `v` the naive counts of the matched set (`counts_spec`), `pre` the preliminary hit
(peptide, the charge it was SEARCHED under, isotope error `k`), `precMz` the precursor m/z, `mono` the peptide
mass, `tic` the total ion current and `n` the peptide length,

* `charge` is the searched charge and `expmass = (precMz − PROTON) · charge` with THAT charge;
* `isotope_error = k · NEUTRON`; `calcmass = mono`;
* `delta_mass = (expmass − mono − k·NEUTRON) · 2e6 / (expmass − k·NEUTRON + mono)` (precursor ppm error);
* `matched_peaks = nb + ny`; `ms2_intensity = Ib + Iy`; `matched_intensity_pct = 100 · (Ib + Iy) / TIC`;
* `longest_y_pct = longest_y / n` with `longest_y` the ladder value of `longest_seq_spec`;
* `average_ppm = (Σ int·|mz−mass|·2e6/(mz+mass)) / (Ib + Iy)`; the fragment list is the naive row list;
* `scored_candidates` and `peptide_len` are passed through. -/
theorem feature_spec (E : Env α β) (sel : α → Option (Peak α)) (series : List (Kind × List α))
    (pre : Pre) (n mfc : Nat) (openms annotate : Bool) (precMz mono tic : α) (totalMatched nScored : Nat) :
    let f := feature E pre (scoreCandidate E sel series n mfc openms annotate) n precMz mono tic totalMatched nScored
    let v : SpecVals α β := specVals E n (specMatches E sel (fragCharges series mfc))
    let pm := E.mul (E.sub precMz E.proton) (E.ofNat pre.charge)
    let iso := E.mul (ofInt E pre.iso) E.neutron
    f.pep = pre.pep ∧ f.charge = pre.charge ∧ f.expmass = pm ∧ f.calcmass = mono ∧ f.isotopeError = iso ∧
    f.deltaMass = E.div (E.mul (E.sub (E.sub pm mono) iso) (E.ofNat 2000000)) (E.add (E.sub pm iso) mono) ∧
    f.matchedPeaks = v.nb + v.ny ∧ f.ms2Intensity = E.add v.ib v.iy ∧
    f.matchedIntensityPct = E.div (E.mul (E.ofNat 100) (E.add v.ib v.iy)) tic ∧
    f.longestB = specLongestSeq v.idxB ∧ f.longestY = specLongestSeq v.idxY ∧
    f.longestYPct = E.div (E.ofNat (specLongestSeq v.idxY)) (E.ofNat n) ∧
    f.averagePpm = E.div v.ppmNum (E.add v.ib v.iy) ∧
    f.ann = (if annotate then some v.rows else none) ∧
    f.scoredCandidates = nScored ∧ f.peptideLen = n := by
  obtain ⟨h1, h2, h3, h4, -, -, h7, h8⟩ := scoreCandidate_spec E sel series n mfc openms annotate
  obtain ⟨hl1, hl2⟩ := longest_seq_spec E sel series n mfc openms annotate
  simp only [feature, h1, h2, h3, h4, h7, h8, hl1, hl2, and_self]

/-- `feature_spec`'s hyperscore column (score type `SageHyperScore`): the pinned function of the naive counts -/
theorem feature_hyperscore (E : Env α β) (sel : α → Option (Peak α)) (series : List (Kind × List α))
    (pre : Pre) (n mfc : Nat) (annotate : Bool) (precMz mono tic : α) (totalMatched nScored : Nat) :
    let v : SpecVals α β := specVals E n (specMatches E sel (fragCharges series mfc))
    (feature E pre (scoreCandidate E sel series n mfc false annotate) n precMz mono tic totalMatched nScored).hyperscore
      = specHyperscore E v.nb v.ny v.ib v.iy :=
  hyperscore_def E sel series n mfc annotate

/-- non-vacuity of `feature_spec` (toy integer environment, PROTON = NEUTRON = 1): precursor m/z 501, searched
    charge 3, isotope error 1 → expmass (501−1)·3 = 1500, isotope_error 1, delta_mass (1500−1490−1)·2e6/(1500−1+1490),
    matched_peaks 3, ms2_intensity 17, matched_intensity_pct 100·17/34 = 50, longest_y_pct 1/4 -/
example :
    let f := feature exEnv { pep := 0, charge := 3, iso := 1, matched := 2 }
      (scoreCandidate exEnv exSel exSeries 4 2 false false) 4 501 1490 34 2 1
    f.charge = 3 ∧ f.expmass = 1500 ∧ f.isotopeError = 1 ∧ f.deltaMass = (9 * 2000000) / 2989 ∧
    f.matchedPeaks = 3 ∧ f.ms2Intensity = 17 ∧ f.matchedIntensityPct = 50 ∧ f.longestYPct = 1 / 4 := by
  decide +kernel

/-- exact rational arithmetic (the transcendental fields are irrelevant here) -/
def envQ : Env Rat Rat :=
  { add := (· + ·), sub := (· - ·), mul := (· * ·), div := (· / ·), abs := fun x => if x < 0 then -x else x,
    neg := fun x => -x, ofNat := fun n => (n : Rat), proton := Sage.Gen.PROTON, neutron := Sage.Gen.NEUTRON, cast := id,
    addD := (· + ·), subD := (· - ·), mulD := (· * ·), divD := (· / ·), negD := fun x => -x,
    ofNatD := fun n => (n : Rat), half := 1 / 2, pi := 355 / 113, tiny := 0, ln := id, exp := id, log10 := id, ln1p := id,
    isFinite := fun _ => true, isInf := fun _ => false }

/-- the `delta_mass` column in exact arithmetic; no condition on the denominator is needed, since in `ℚ` both
    sides are `0` when it vanishes -/
theorem deltaMass_envQ (pre : Pre) (s : Scored Rat Rat) (n : Nat) (precMz mono tic : Rat) (tm ns : Nat) :
    let obs := (precMz - Sage.Gen.PROTON) * (pre.charge : Rat) - (ofInt envQ pre.iso) * Sage.Gen.NEUTRON
    (feature envQ pre s n precMz mono tic tm ns).deltaMass = 1000000 * (obs - mono) / ((obs + mono) / 2) := by
  simp only [feature, envQ, Nat.cast_ofNat]
  rw [div_div_eq_mul_div]
  congr 1
  ring

set_option linter.unusedVariables false in
/-- **C04.delta_mass_ppm** — in exact arithmetic the `delta_mass` column IS the precursor error in ppm relative
to the mean of observed and calculated mass: with `obs = (precMz − PROTON)·charge − k·NEUTRON` (the observed
mass corrected for the isotope error) and `calc = mono`, `delta_mass = 10⁶ · (obs − calc) / ((obs + calc)/2)`.
(`hD` is not used: `deltaMass_envQ`.) -/
theorem delta_mass_ppm (pre : Pre) (s : Scored Rat Rat) (n : Nat) (precMz mono tic : Rat) (tm ns : Nat)
    (hD : ((precMz - Sage.Gen.PROTON) * (pre.charge : Rat) - (ofInt envQ pre.iso) * Sage.Gen.NEUTRON) + mono ≠ 0) :
    let obs := (precMz - Sage.Gen.PROTON) * (pre.charge : Rat) - (ofInt envQ pre.iso) * Sage.Gen.NEUTRON
    (feature envQ pre s n precMz mono tic tm ns).deltaMass = 1000000 * (obs - mono) / ((obs + mono) / 2) :=
  deltaMass_envQ pre s n precMz mono tic tm ns

/-- `isotope_error as f32` is the integer `k` itself in exact arithmetic -/
theorem ofInt_envQ (k : Int) : ofInt envQ k = (k : Rat) := by
  unfold ofInt
  split
  next h =>
    show -((k.natAbs : Int) : Rat) = k
    rw [Int.ofNat_natAbs_of_nonpos h.le, Int.cast_neg, neg_neg]
  next h => exact congrArg Int.cast (Int.natAbs_of_nonneg (Int.not_lt.mp h))

/-- non-vacuity of `delta_mass_ppm`: the denominator hypothesis holds for m/z 501, charge 3, isotope error 1,
    peptide mass 1490 -/
example : ((501 : Rat) - Sage.Gen.PROTON) * ((3 : Nat) : Rat) - (ofInt envQ 1) * Sage.Gen.NEUTRON + 1490 ≠ 0 := by
  decide +kernel

end Sage.C04
