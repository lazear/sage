import SageModel.Model.C01Pipeline
import SageModel.Props.C02
import SageModel.Props.C03
import SageModel.Props.C05
import SageModel.Props.C08
import SageModel.Props.C08Sources
import Mathlib.Tactic.Linarith

/-!
# C01 — composition theorems about the pipeline model

`pipeline` (Model/C01Pipeline.lean) composes the component models, and the theorems here compose the component
properties' theorems; nothing about digestion, modification placement, the index, the search or the ranking is
re-proved.

Number types: the structural and search theorems hold for every `α` with a linear order (any arithmetic `Env`,
in particular the rounded one); the source theorems are stated at `α := Rat` like C08's.
-/

set_option linter.unusedSectionVars false

namespace Sage.C01

open Sage.C04 (Env Peak)
open Sage.C02 (Psm Hits PreScore)

-- Instance-search shortcut. At every mention of a model function (`[LT α] [DecidableLT α] [LE α] [DecidableLE α]`) under
-- `[LinearOrder α]` the search for `PartialOrder α` ends on this path after a long detour; tried first, it gives the same terms.
attribute [local instance 1100] SemilatticeInf.toPartialOrder Lattice.toSemilatticeInf DistribLattice.toLattice
  instDistribLatticeOfLinearOrder

section structural
variable {α β : Type} [Add α] [Sub α] [Mul α] [Neg α] [OfNat α 0] [BEq α]
  [LT α] [DecidableLT α] [LE α] [DecidableLE α]

theorem searchH_eq (A : Arith α β) (db : C02.Db α) (cfg : C02.Cfg α) (info : C02.PepInfo α)
    (peaks : List (Peak α)) (prec : C02.Precursor α) :
    (searchH A db cfg info peaks prec).1 = C02.initialHits A.E db cfg peaks prec ∧
    (searchH A db cfg info peaks prec).2 = (C02.search A.E A.tle db cfg info peaks prec).2 := by
  unfold searchH C02.search
  exact ⟨rfl, by cases cfg.chimera <;> rfl⟩

/-- what `rowOf` guarantees of a row built from PSM `psm`, by construction (the fields are C04's `feature`) -/
structure RowOf (A : Arith α β) (w : World α) (precMz : α) (psm : Psm β) (row : ModelRow α β) : Prop where
  entry : w.peps[psm.pep]? = some row.entry
  pepIx : row.pepIx = psm.pep
  rank : row.rank = psm.rank
  charge : row.charge = psm.charge
  iso : row.iso = psm.iso
  hs : row.hyperscore = psm.hs
  dnext : row.deltaNext = psm.dnext
  dbest : row.deltaBest = psm.dbest
  calcmass : row.calcmass = row.entry.core.mono
  label : row.label = if row.entry.decoy then -1 else 1
  expmass : row.expmass = A.E.mul (A.E.sub precMz A.E.proton) (A.E.ofNat psm.charge)
  isoErr : row.isotopeError = A.E.mul (C04.ofInt A.E psm.iso) A.E.neutron
  len : row.peptideLen = row.entry.core.sequence.length
  mc : row.missedCleavages = row.entry.mc
  semi : row.semiEnzymatic = row.entry.semi

theorem rowOf_spec {A : Arith α β} {cfg : PCfg α} {w : World α} {file : Nat} {scan : String} {precMz : α}
    {hits : Hits} {psm : Psm β} {q : Array (Peak α)} {tic : α} {row : ModelRow α β}
    (h : rowOf A cfg w file scan precMz hits psm q tic = some row) :
    RowOf A w precMz psm row ∧ row.file = file ∧ row.scan = scan := by
  unfold rowOf at h
  split at h
  · cases h
  · rename_i e he
    cases h
    exact ⟨⟨he, rfl, rfl, rfl, rfl, rfl, rfl, rfl, rfl, rfl, rfl, rfl, rfl, rfl, rfl⟩, rfl, rfl⟩

theorem scoredOn_length [C10.Num α] (A : Arith α β) (cfg : C02.Cfg α) (info : C02.PepInfo α) (psms : List (Psm β)) :
    ∀ (q : Array (Peak α)) (t : α), (scoredOn A cfg info psms q t).length = psms.length := by
  induction psms with
  | nil => intro q t; rfl
  | cons p ps ih =>
    intro q t
    unfold scoredOn
    split <;> exact congrArg (· + 1) (ih _ _)

/-- `on`: the spectrum each PSM was scored on (`scoredOn`) -/
theorem spectrumRows_eq [C10.Num α] (A : Arith α β) {cfg : PCfg α} (w : World α) (file : Nat) {sp : C17.Spectrum α}
    {peaks : List (Peak α)} {tic : α} {prec : C02.Precursor α} (hp : prepare cfg sp = some (peaks, tic, prec)) :
    ∃ on : List (Array (Peak α) × α), on.length = (C02.search A.E A.tle w.idx cfg.search w.info peaks prec).2.length ∧
      spectrumRows A cfg w file sp = ((C02.search A.E A.tle w.idx cfg.search w.info peaks prec).2.zip on).filterMap
        fun pq => rowOf A cfg w file sp.id prec.mz (C02.initialHits A.E w.idx cfg.search peaks prec) pq.1 pq.2.1 pq.2.2 := by
  obtain ⟨h1, h2⟩ := searchH_eq A w.idx cfg.search w.info peaks prec
  refine ⟨_, scoredOn_length A cfg.search w.info _ peaks.toArray tic, ?_⟩
  unfold spectrumRows
  rw [hp, ← h1, ← h2]

theorem worldOf_spec {A : Arith α β} {cfg : PCfg α} {db : List (C08.DbPep α)} {w : World α}
    (h : worldOf A cfg db = some w) :
    w.peps = db.toArray ∧ w.info = infoOf A cfg db ∧
    ∃ minv frags, C03.buildIndex cfg.bucket (ionsOf A cfg db) = some (minv, frags) ∧
      w.idx = { masses := (db.map (·.core.mono)).toArray, minv := minv, frags := frags, B := cfg.bucket } := by
  unfold worldOf indexOf at h
  rcases hb : C03.buildIndex cfg.bucket (ionsOf A cfg db) with _ | ⟨minv, frags⟩
  · rw [hb] at h; cases h
  · rw [hb] at h
    cases h
    exact ⟨rfl, rfl, minv, frags, rfl, rfl⟩

theorem worldOf_mass {A : Arith α β} {cfg : PCfg α} {db : List (C08.DbPep α)} {w : World α}
    (h : worldOf A cfg db = some w) {i : Nat} {m : α} (hm : w.idx.masses[i]? = some m) :
    ∃ e, w.peps[i]? = some e ∧ e.core.mono = m := by
  obtain ⟨hpeps, -, _, _, -, hidx⟩ := worldOf_spec h
  rw [hidx] at hm
  rw [hpeps]
  simpa only [List.getElem?_toArray, List.getElem?_map, Option.map_eq_some_iff] using hm

theorem mem_pipeline [C10.Num α] [C17.NumOps α] {A : Arith α β} {cfg : PCfg α} {fasta : C05.Seq}
    {files : List (List (C17.Line α))} {rows : List (ModelRow α β)}
    (h : pipeline A cfg fasta files = some rows) {row : ModelRow α β} (hr : row ∈ rows) :
    ∃ targets db w doc sp peaks tic prec psm, C05.parse cfg.db.tag cfg.db.gen fasta = some targets ∧
      C08.buildDb cfg.db targets = some db ∧ worldOf A cfg db = some w ∧
      files[row.file]? = some doc ∧ sp ∈ C17.parseLines doc ∧ prepare cfg sp = some (peaks, tic, prec) ∧
      psm ∈ (C02.search A.E A.tle w.idx cfg.search w.info peaks prec).2 ∧ RowOf A w prec.mz psm row ∧
      row.scan = sp.id := by
  unfold pipeline at h
  split at h
  · cases h
  · rename_i targets hp
    split at h
    · cases h
    · rename_i w hw
      cases h
      obtain ⟨db, hd, hw⟩ := Option.bind_eq_some_iff.mp hw
      simp only [worldRows, fileRows, List.mem_flatMap] at hr
      obtain ⟨di, hdi, sp, hsp, hrow⟩ := hr
      rcases hprep : prepare cfg sp with _ | ⟨peaks, tic, prec⟩
      · simp only [spectrumRows, hprep, List.not_mem_nil] at hrow
      · obtain ⟨on, -, heq⟩ := spectrumRows_eq A w di.2 hprep
        rw [heq] at hrow
        obtain ⟨pq, hpq, hrow⟩ := List.mem_filterMap.mp hrow
        obtain ⟨ro, hfile, hscan⟩ := rowOf_spec hrow
        rw [hfile]
        exact ⟨targets, db, w, di.1, sp, peaks, tic, prec, pq.1, hp, hd, hw, List.mem_zipIdx_iff_getElem?.mp hdi, hsp,
          hprep, (List.of_mem_zip hpq).1, ro, hscan⟩

end structural

section entry
variable {α β : Type} [Add α] [Sub α] [Mul α] [Neg α] [OfNat α 0] [BEq α]
  [LT α] [DecidableLT α] [LE α] [DecidableLE α] [C10.Num α] [C17.NumOps α]

/-- Every row of the pipeline is about an entry of the database that `C08.buildDb` builds from the parsed FASTA
    records: `row.entry` is the entry at index `row.pepIx`, and `calcmass`, `label`, `peptide_len`, `missed_cleavages`,
    `semi_enzymatic` are the entry's (all modes, every number type). -/
theorem rows_entry (A : Arith α β) (cfg : PCfg α) (fasta : C05.Seq) (files : List (List (C17.Line α)))
    (rows : List (ModelRow α β)) (h : pipeline A cfg fasta files = some rows) (row : ModelRow α β) (hr : row ∈ rows) :
    ∃ targets db, C05.parse cfg.db.tag cfg.db.gen fasta = some targets ∧ C08.buildDb cfg.db targets = some db ∧
      db[row.pepIx]? = some row.entry ∧
      row.calcmass = row.entry.core.mono ∧
      row.label = (if row.entry.decoy then -1 else 1) ∧
      row.peptideLen = row.entry.core.sequence.length ∧
      row.missedCleavages = row.entry.mc ∧ row.semiEnzymatic = row.entry.semi := by
  obtain ⟨targets, db, w, _, _, _, _, _, psm, h1, h2, h3, _, _, _, _, ro, _⟩ := mem_pipeline h hr
  obtain ⟨hw, _, _⟩ := worldOf_spec h3
  refine ⟨targets, db, h1, h2, ?_, ro.calcmass, ro.label, ro.len, ro.mc, ro.semi⟩
  rw [ro.pepIx, ← List.getElem?_toArray, ← hw]
  exact ro.entry

end entry

section sources
variable {β : Type} [C17.NumOps Rat]

/-- where a contribution comes from: a record of the FASTA file, a peptide the C05 digestion of that record
    yields — i.e. (C05 `digest_mem_iff`) the substring of an allowed span of the enzyme specification — and a
    modified form the C06 model derives from it (`dbForms`: C06 `forms_characterized` / `mass_formula` describe
    its placements and mass), or, with generated decoys, the reversal of such a form. -/
theorem contrib_source (cfg : C08.Cfg Rat) (t : List (C05.Seq × C05.Seq)) (c : C08.DbPep Rat)
    (hc : c ∈ C08.contribs cfg t) :
    ∃ rec ∈ t, ∃ d ∈ C05.digest cfg.par rec.2,
      (∃ cand ∈ C05.cands cfg.par rec.2, C05.sub rec.2 cand.i cand.j = d.seq) ∧
      c.proteins = [C08.nats rec.1] ∧ c.mc = d.mc ∧ c.semi = d.semi ∧
      ∃ f ∈ C06.dbForms cfg.h2o cfg.table (C08.toPos6 d.pos) (C08.nats d.seq) cfg.vars cfg.statics cfg.maxVar cfg.lo cfg.hi,
        c.core = f ∨ (cfg.gen = true ∧ c.core = C08.revCore f) := by
  unfold C08.contribs at hc
  obtain ⟨pd, hpd, hcd⟩ := List.mem_flatMap.mp hc
  rw [C08.groupPeptides_eq] at hcd
  obtain ⟨x, hx, rfl⟩ := List.mem_map.mp hcd
  unfold C08.fastaDigest at hpd
  obtain ⟨rec, hrec, hpd⟩ := List.mem_flatMap.mp hpd
  unfold C08.recordDigests at hpd
  obtain ⟨d, hd, hpd⟩ := List.mem_filterMap.mp hpd
  -- whichever branch keeps the digest, only the decoy flag is not copied from it
  obtain ⟨b, rfl⟩ : ∃ b, pd =
      ⟨b, d.semi, C08.nats d.seq, C08.nats rec.1, d.mc, d.pos⟩ := by
    dsimp only at hpd
    split_ifs at hpd <;> cases hpd <;> exact ⟨_, rfl⟩
  refine ⟨rec, hrec, d, hd, (C05.digest_mem_iff cfg.par rec.2 d.seq).mp (List.mem_map.mpr ⟨d, hd, rfl⟩),
    rfl, rfl, rfl, ?_⟩
  unfold C08.skeleton at hx
  obtain ⟨hx, -⟩ := List.mem_filter.mp hx
  split at hx
  · rename_i hg
    obtain ⟨p, hp, hxp⟩ := List.mem_flatMap.mp hx
    obtain ⟨f, hf, rfl⟩ := List.mem_map.mp hp
    rcases List.mem_pair.mp hxp with rfl | rfl
    · exact ⟨f, hf, .inr ⟨hg, rfl⟩⟩
    · exact ⟨f, hf, .inl rfl⟩
  · obtain ⟨f, hf, rfl⟩ := List.mem_map.mp hx
    exact ⟨f, hf, .inl rfl⟩

/-- Every row is a truthful statement about the FASTA file: the row's entry has the key (mass, sequence,
    modifications, termini) of some contribution (`contrib_source`); its protein list is strictly increasing and is
    exactly the set of accessions of the contributions with that key; `label = -1` iff all of them are decoys
    (C08 `db_canonical_sources`). -/
theorem rows_sources (A : Arith Rat β) (cfg : PCfg Rat) (fasta : C05.Seq) (files : List (List (C17.Line Rat)))
    (rows : List (ModelRow Rat β)) (h : pipeline A cfg fasta files = some rows) (row : ModelRow Rat β)
    (hr : row ∈ rows) :
    ∃ targets, C05.parse cfg.db.tag cfg.db.gen fasta = some targets ∧
      (∃ c ∈ C08.contribs cfg.db targets, C08.keyOf c = C08.keyOf row.entry) ∧
      (∀ a, a ∈ row.entry.proteins ↔
        ∃ c ∈ C08.contribs cfg.db targets, C08.keyOf c = C08.keyOf row.entry ∧ a ∈ c.proteins) ∧
      (row.label = -1 ↔ ∀ c ∈ C08.contribs cfg.db targets, C08.keyOf c = C08.keyOf row.entry → c.decoy = true) ∧
      C08.strictlyIncreasing row.entry.proteins = true := by
  obtain ⟨targets, db, h1, h2, h3, _, h5, _⟩ := rows_entry A cfg fasta files rows h row hr
  have hmem : row.entry ∈ db := List.mem_of_getElem? h3
  obtain ⟨_, _, s3, ent, _⟩ := C08.db_canonical_sources cfg.db targets db h2
  obtain ⟨e1, e2, e3, _⟩ := ent row.entry hmem
  refine ⟨targets, h1, e1, e2, ?_, s3 row.entry hmem⟩
  rw [← e3, h5]
  cases row.entry.decoy <;> simp

end sources

theorem buildFeatures_first {β : Type} {tle : β → β → Bool} (htle : C02.TotalPre tle) {sub : β → β → β} {zero : β}
    {score : PreScore → C02.Cand β} {minMatched r : Nat} (hr : 0 < r) {prelim : List PreScore} {c : PreScore}
    (hc : c ∈ prelim) (hm : 0 < c.matched) (hmin : minMatched ≤ (score c).matched)
    (hbest : ∀ c' ∈ prelim, c' ≠ c → 0 < c'.matched → minMatched ≤ (score c').matched →
      tle (score c).hs (score c').hs = false)
    (hpre : ∀ c, (score c).pre = c) :
    ∃ p, (C02.buildFeatures tle sub zero score minMatched r prelim)[0]? = some p ∧ p.rank = 1 ∧ p.pep = c.peptide ∧
      p.charge = c.charge ∧ p.iso = c.iso := by
  rw [C02.buildFeatures, C02.reportFrom_getElem?, if_pos hr]
  have hmem := (C02.mem_scoreVector tle score minMatched prelim _).mpr ⟨c, hc, hm, rfl, hmin⟩
  rcases hsv : C02.scoreVector tle score minMatched prelim with _ | ⟨d, rest⟩
  · rw [hsv] at hmem; cases hmem
  · obtain ⟨⟨p, hp, hpm, rfl, hdmin⟩, hall⟩ :=
      C02.scoreVector_head_best tle (minMatched := minMatched) (prelim := prelim) htle score d rest hsv
    -- the head is the score of some `p`, at least `c`'s; were `p ≠ c`, `c`'s would strictly exceed it
    by_cases hpc : p = c
    · subst hpc
      have h := hpre p
      exact ⟨_, rfl, rfl, congrArg (·.peptide) h, congrArg (·.charge) h, congrArg (·.iso) h⟩
    · exact absurd (hall c hc hm hmin) (by rw [hbest p hp hpc hpm hdmin]; exact Bool.false_ne_true)

theorem search_std {α β : Type} [LT α] [DecidableLT α] [LE α] [DecidableLE α] [BEq α] {E : Env α β}
    {tle : β → β → Bool} {db : C02.Db α} {cfg : C02.Cfg α} {info : C02.PepInfo α} {peaks : List (Peak α)}
    {prec : C02.Precursor α} (hstd : cfg.chimera = false) :
    (C02.search E tle db cfg info peaks prec).2 =
      C02.buildFeatures tle E.subD (E.ofNatD 0) (C02.scoreCand E cfg.ftol cfg.mfc info peaks.toArray) cfg.minMatched
        cfg.reportPsms (C02.initialHits E db cfg peaks prec).prelim.toList := by
  unfold C02.search
  rw [hstd]
  rfl

section ordered
variable {α β : Type} [LinearOrder α] [Add α] [Sub α] [Mul α] [Neg α] [OfNat α 0] [C10.Num α] [C17.NumOps α]

theorem ionsOf_valid (A : Arith α β) (cfg : PCfg α) (db : List (C08.DbPep α)) :
    ∀ f ∈ ionsOf A cfg db, f.pep < db.length := by
  intro f hf
  unfold ionsOf C08.fragmentsOf C09.buildFragments at hf
  obtain ⟨g, hg, rfl⟩ := List.mem_map.mp hf
  obtain ⟨pi, hpi, hg⟩ := List.mem_flatMap.mp hg
  unfold C09.pepFragments at hg
  obtain ⟨kind, _, hg⟩ := List.mem_flatMap.mp hg
  obtain ⟨mj, _, rfl⟩ := List.mem_map.mp hg
  simpa using (List.mem_zipIdx hpi).2.1

theorem worldOf_inv (A : Arith α β) {cfg : PCfg α} {targets : List (C05.Seq × C05.Seq)} {db : List (C08.DbPep α)}
    (hdb : C08.buildDb cfg.db targets = some db) (hB : 0 < cfg.bucket) :
    ∃ w, worldOf A cfg db = some w ∧ C03.DbInv w.idx.masses w.idx.minv w.idx.frags w.idx.B := by
  -- a successful `buildDb` is `reorder` of something, hence sorted by mass (C08 `db_sorted_unique`)
  have hs : db.Pairwise (fun a b => a.core.mono ≤ b.core.mono) := by
    unfold C08.buildDb C08.buildWith at hdb
    obtain ⟨gs, -, rfl⟩ := Option.map_eq_some_iff.mp hdb
    exact (C08.db_sorted_unique _).1
  have hm : C03.SortedArr (db.map (·.core.mono)).toArray :=
    C03.sortedArr_of_pairwise _ (List.pairwise_map.mpr hs)
  obtain ⟨minv, frags, hb, inv, _⟩ := C03.buildIndex_inv cfg.bucket hB _ hm (ionsOf A cfg db)
    (fun f hf => by simpa using ionsOf_valid A cfg db f hf)
  simp only [worldOf, indexOf, hb, Option.map_some, Option.some.injEq, exists_eq_left']
  exact inv

/-- The fragment index of the pipeline's database satisfies C03's index invariant: C08's "sorted by mass" and "every
    ion carries a valid peptide index" are the hypotheses of C03's `buildIndex_inv`. -/
theorem world_inv (A : Arith α β) (cfg : PCfg α) (targets : List (C05.Seq × C05.Seq)) (db : List (C08.DbPep α))
    (w : World α) (hdb : C08.buildDb cfg.db targets = some db) (hw : worldOf A cfg db = some w) :
    C03.DbInv w.idx.masses w.idx.minv w.idx.frags w.idx.B := by
  obtain ⟨_, _, minv, frags, hb, _⟩ := worldOf_spec hw
  -- `buildIndex` refuses a zero bucket size
  have hB : 0 < cfg.bucket := Nat.pos_of_ne_zero fun h0 => by rw [h0] at hb; cases hb
  obtain ⟨w', hw', inv⟩ := worldOf_inv A hdb hB
  cases hw.symm.trans hw'
  exact inv

theorem psm_in_window {A : Arith α β} {cfg : PCfg α} {targets : List (C05.Seq × C05.Seq)} {db : List (C08.DbPep α)}
    {w : World α} (hdb : C08.buildDb cfg.db targets = some db) (hw : worldOf A cfg db = some w)
    (hstd : cfg.search.chimera = false) {peaks : List (Peak α)} {prec : C02.Precursor α} {psm : Psm β}
    (hpsm : psm ∈ (C02.search A.E A.tle w.idx cfg.search w.info peaks prec).2) :
    ∃ zt ∈ C02.searched A.E cfg.search prec, ∃ e ∈ C02.isotopes cfg.search.isoLo cfg.search.isoHi,
      psm.charge = zt.1 ∧ psm.iso = e ∧ ∃ ent, w.peps[psm.pep]? = some ent ∧
        (C04.tolBounds A.E zt.2 (C02.queryMass A.E (A.E.mul (A.E.sub prec.mz A.E.proton) (A.E.ofNat zt.1)) e)).1
          ≤ ent.core.mono ∧
        ent.core.mono ≤
          (C04.tolBounds A.E zt.2 (C02.queryMass A.E (A.E.mul (A.E.sub prec.mz A.E.proton) (A.E.ofNat zt.1)) e)).2 := by
  obtain ⟨zt, hzt, e, he, hz, hi, ⟨m, hm, hlo, hhi⟩, _⟩ := C02.search_in_window A.E A.tle w.idx
    (world_inv A cfg targets db w hdb hw) cfg.search w.info peaks prec hstd psm hpsm
  obtain ⟨ent, hent, rfl⟩ := worldOf_mass hw hm
  exact ⟨zt, hzt, e, he, hz, hi, ent, hent, hlo, hhi⟩

/-- Standard mode: every row reports a (charge, isotope offset) pair that was searched for its spectrum,
    `expmass = (precursor m/z − PROTON)·charge` at that charge, and `lo ≤ calcmass ≤ hi` with
    `(lo, hi) = Tolerance::bounds(expmass − offset·NEUTRON)` (C02 `search_in_window`). -/
theorem rows_in_window (A : Arith α β) (cfg : PCfg α) (fasta : C05.Seq) (files : List (List (C17.Line α)))
    (rows : List (ModelRow α β)) (hstd : cfg.search.chimera = false)
    (h : pipeline A cfg fasta files = some rows) (row : ModelRow α β) (hr : row ∈ rows) :
    ∃ doc sp peaks tic prec, files[row.file]? = some doc ∧ sp ∈ C17.parseLines doc ∧ row.scan = sp.id ∧
      prepare cfg sp = some (peaks, tic, prec) ∧
      ∃ zt ∈ C02.searched A.E cfg.search prec, ∃ e ∈ C02.isotopes cfg.search.isoLo cfg.search.isoHi,
        row.charge = zt.1 ∧ row.iso = e ∧
        row.expmass = A.E.mul (A.E.sub prec.mz A.E.proton) (A.E.ofNat zt.1) ∧
        row.isotopeError = A.E.mul (C04.ofInt A.E e) A.E.neutron ∧
        (C04.tolBounds A.E zt.2 (C02.queryMass A.E row.expmass e)).1 ≤ row.calcmass ∧
        row.calcmass ≤ (C04.tolBounds A.E zt.2 (C02.queryMass A.E row.expmass e)).2 := by
  obtain ⟨targets, db, w, doc, sp, peaks, tic, prec, psm, _, h2, h3, h4, h5, hprep, hpsm, ro, hscan⟩ := mem_pipeline h hr
  obtain ⟨zt, hzt, e, he, hz, hi, ent, hent, hlo, hhi⟩ := psm_in_window h2 h3 hstd hpsm
  cases ro.entry.symm.trans hent
  have hexp := ro.expmass
  rw [hz] at hexp
  refine ⟨doc, sp, peaks, tic, prec, h4, h5, hscan, hprep, zt, hzt, e, he, ro.charge.trans hz, ro.iso.trans hi,
    hexp, hi ▸ ro.isoErr, ?_, ?_⟩ <;> rw [hexp, ro.calcmass]
  exacts [hlo, hhi]

/-- the columns a row copies from its PSM -/
def psmKey (p : Psm β) : Nat × Nat × Nat × Int × β × β × β := (p.rank, p.pep, p.charge, p.iso, p.hs, p.dnext, p.dbest)
def rowKey (r : ModelRow α β) : Nat × Nat × Nat × Int × β × β × β :=
  (r.rank, r.pepIx, r.charge, r.iso, r.hyperscore, r.deltaNext, r.deltaBest)

theorem rowKey_eq_psmKey {r : ModelRow α β} {p : Psm β} : rowKey r = psmKey p ↔
    r.rank = p.rank ∧ r.pepIx = p.pep ∧ r.charge = p.charge ∧ r.iso = p.iso ∧ r.hyperscore = p.hs ∧
      r.deltaNext = p.dnext ∧ r.deltaBest = p.dbest := by
  simp only [rowKey, psmKey, Prod.mk.injEq]

theorem keys_getElem? {rs : List (ModelRow α β)} {P : List (Psm β)} (h : rs.map rowKey = P.map psmKey) (i : Nat) :
    (∀ r, rs[i]? = some r → ∃ p, P[i]? = some p ∧ rowKey r = psmKey p) ∧
    (∀ p, P[i]? = some p → ∃ r, rs[i]? = some r ∧ rowKey r = psmKey p) := by
  have := congrArg (·[i]?) h
  simp only [List.getElem?_map] at this
  constructor
  · intro r hr
    rw [hr] at this
    obtain ⟨p, hp, hk⟩ := Option.map_eq_some_iff.mp this.symm
    exact ⟨p, hp, hk.symm⟩
  · intro p hp
    rw [hp] at this
    exact Option.map_eq_some_iff.mp this

/-- Standard mode, over a database built by the pipeline: the rows of a spectrum are, in order, the PSMs `C02.search`
    reports for it. In particular the totalisation in `rowOf` (peptide index out of range = panic in the real code) is
    never taken. -/
theorem rows_complete (A : Arith α β) (cfg : PCfg α) (targets : List (C05.Seq × C05.Seq)) (db : List (C08.DbPep α))
    (w : World α) (hdb : C08.buildDb cfg.db targets = some db) (hw : worldOf A cfg db = some w)
    (hstd : cfg.search.chimera = false) (file : Nat) (sp : C17.Spectrum α) :
    (spectrumRows A cfg w file sp).map rowKey = (spectrumPsms A cfg w sp).map psmKey := by
  rcases hp : prepare cfg sp with _ | ⟨peaks, tic, prec⟩
  · simp only [spectrumRows, spectrumPsms, hp, List.map_nil]
  · obtain ⟨on, hlen, heq⟩ := spectrumRows_eq A w file hp
    simp only [spectrumPsms, hp]
    rw [heq, List.map_filterMap, (List.filterMap_eq_map_iff_forall_eq_some (g := psmKey ∘ Prod.fst)).mpr, ← List.map_map,
      List.map_fst_zip (hlen ▸ le_refl _)]
    intro pq hpq
    -- the peptide of a reported PSM is an entry of `w.peps`, so `rowOf` builds a row, with the PSM's columns
    obtain ⟨_, _, _, _, _, _, ent, hent, _⟩ := psm_in_window hdb hw hstd (List.of_mem_zip hpq).1
    unfold rowOf
    rw [hent]
    rfl

/-- Standard mode: a spectrum has `k ≤ report_psms` rows, the row at position `i` has rank `i + 1`, hyperscores are
    non-increasing with rank, `delta_best ≥ 0`, and `delta_next ≥ 0` for every row whose hyperscore is `≥ 0`
    (C02 `report_spec`; `tle` = `total_cmp ≠ Greater`). -/
theorem rows_ranked (A : Arith α β) (cfg : PCfg α) (targets : List (C05.Seq × C05.Seq)) (db : List (C08.DbPep α))
    (w : World α) (hdb : C08.buildDb cfg.db targets = some db) (hw : worldOf A cfg db = some w)
    (hstd : cfg.search.chimera = false) (htle : C02.TotalPre A.tle)
    (hsub : ∀ x y, A.tle y x = true → A.tle (A.E.ofNatD 0) (A.E.subD x y) = true)
    (file : Nat) (sp : C17.Spectrum α) :
    let rs := spectrumRows A cfg w file sp
    rs.length ≤ cfg.search.reportPsms ∧
    (∀ (i : Nat) (r : ModelRow α β), rs[i]? = some r → r.rank = i + 1) ∧
    (∀ (i j : Nat) (r s : ModelRow α β), i < j → rs[i]? = some r → rs[j]? = some s →
        A.tle s.hyperscore r.hyperscore = true) ∧
    (∀ (i : Nat) (r : ModelRow α β), rs[i]? = some r → A.tle (A.E.ofNatD 0) r.deltaBest = true) ∧
    (∀ (i : Nat) (r : ModelRow α β), rs[i]? = some r → A.tle (A.E.ofNatD 0) r.hyperscore = true →
        A.tle (A.E.ofNatD 0) r.deltaNext = true) := by
  intro rs
  have hkeys := rows_complete A cfg targets db w hdb hw hstd file sp
  rcases hp : prepare cfg sp with _ | ⟨peaks, tic, prec⟩
  · have : rs = [] := by simp only [rs, spectrumRows, hp]
    simp only [this, List.length_nil, Nat.zero_le, List.getElem?_nil, reduceCtorEq, false_imp_iff, implies_true,
      and_self]
  · simp only [spectrumPsms, hp, search_std hstd] at hkeys
    -- `report_spec` speaks of the PSM list; row `i` carries the keys of PSM `i`
    obtain ⟨_, p1, p2, p3, p4, _, p5, _⟩ := C02.report_spec A.tle A.E.subD (A.E.ofNatD 0) htle hsub
      (C02.scoreCand A.E cfg.search.ftol cfg.search.mfc w.info peaks.toArray) cfg.search.minMatched
      cfg.search.reportPsms (C02.initialHits A.E w.idx cfg.search peaks prec).prelim.toList
    generalize C02.buildFeatures _ _ _ _ _ _ _ = P at hkeys p1 p2 p3 p4 p5
    refine ⟨?_, ?_, ?_, ?_, ?_⟩
    · rw [← List.length_map (f := rowKey), hkeys, List.length_map]
      exact p1
    · intro i r hr
      obtain ⟨p, hp, k⟩ := (keys_getElem? hkeys i).1 r hr
      exact (rowKey_eq_psmKey.mp k).1.trans (p2 i p hp)
    · intro i j r s hij hr hs
      obtain ⟨p, hp, k⟩ := (keys_getElem? hkeys i).1 r hr
      obtain ⟨q, hq, k'⟩ := (keys_getElem? hkeys j).1 s hs
      rw [(rowKey_eq_psmKey.mp k).2.2.2.2.1, (rowKey_eq_psmKey.mp k').2.2.2.2.1]
      exact p3 i j p q hij hp hq
    · intro i r hr
      obtain ⟨p, hp, k⟩ := (keys_getElem? hkeys i).1 r hr
      rw [(rowKey_eq_psmKey.mp k).2.2.2.2.2.2]
      exact p4 i p hp
    · intro i r hr
      obtain ⟨p, hp, k⟩ := (keys_getElem? hkeys i).1 r hr
      obtain ⟨-, -, -, -, k5, k6, -⟩ := rowKey_eq_psmKey.mp k
      rw [k5, k6]
      exact p5 i p hp

theorem row_of_psm {A : Arith α β} {cfg : PCfg α} {targets : List (C05.Seq × C05.Seq)} {db : List (C08.DbPep α)}
    {w : World α} (hdb : C08.buildDb cfg.db targets = some db) (hw : worldOf A cfg db = some w)
    (hstd : cfg.search.chimera = false) (file : Nat) {sp : C17.Spectrum α} {peaks : List (Peak α)} {tic : α}
    {prec : C02.Precursor α} (hprep : prepare cfg sp = some (peaks, tic, prec)) {i k pep z : Nat} {e : Int}
    (h : ∃ p, (C02.search A.E A.tle w.idx cfg.search w.info peaks prec).2[i]? = some p ∧ p.rank = k ∧ p.pep = pep ∧
      p.charge = z ∧ p.iso = e) :
    ∃ r, (spectrumRows A cfg w file sp)[i]? = some r ∧ r.rank = k ∧ r.pepIx = pep ∧ r.charge = z ∧ r.iso = e := by
  obtain ⟨p, hp, h1, h2, h3, h4⟩ := h
  have hkeys := rows_complete A cfg targets db w hdb hw hstd file sp
  simp only [spectrumPsms, hprep] at hkeys
  obtain ⟨r, hr, hk⟩ := (keys_getElem? hkeys i).2 p hp
  obtain ⟨k1, k2, k3, k4, -⟩ := rowKey_eq_psmKey.mp hk
  exact ⟨r, hr, k1.trans h1, k2.trans h2, k3.trans h3, k4.trans h4⟩

/-- "Planted peptides are found" with both hypotheses taken as given (standard mode, `report_psms ≥ 1`): if candidate
    `c` survives the preliminary trimming, its full score reaches `min_matched_peaks`, and every other retained
    candidate that reaches it has a strictly lower hyperscore, then the first row of the spectrum is `c`'s peptide at
    rank 1. The strictness hypothesis is necessary: `findings/C01-isobaric-decoy-outranks-planted-target.req` (the
    reversed decoy `PIFLK` of the planted target `PLFIK` has the same ladder, the same score, and the lower index). -/
theorem planted_found_partial (A : Arith α β) (cfg : PCfg α) (targets : List (C05.Seq × C05.Seq))
    (db : List (C08.DbPep α)) (w : World α) (hdb : C08.buildDb cfg.db targets = some db)
    (hw : worldOf A cfg db = some w) (hstd : cfg.search.chimera = false) (htle : C02.TotalPre A.tle)
    (hr : 0 < cfg.search.reportPsms) (file : Nat) (sp : C17.Spectrum α)
    (peaks : List (Peak α)) (tic : α) (prec : C02.Precursor α) (hprep : prepare cfg sp = some (peaks, tic, prec))
    (c : PreScore) (hc : c ∈ (C02.initialHits A.E w.idx cfg.search peaks prec).prelim.toList) (hm : 0 < c.matched)
    (hmin : cfg.search.minMatched ≤
      (C02.scoreCand A.E cfg.search.ftol cfg.search.mfc w.info peaks.toArray c : C02.Cand β).matched)
    (hbest : ∀ c' ∈ (C02.initialHits A.E w.idx cfg.search peaks prec).prelim.toList, c' ≠ c → 0 < c'.matched →
      cfg.search.minMatched ≤ (C02.scoreCand A.E cfg.search.ftol cfg.search.mfc w.info peaks.toArray c' : C02.Cand β).matched →
      A.tle (C02.scoreCand A.E cfg.search.ftol cfg.search.mfc w.info peaks.toArray c : C02.Cand β).hs
            (C02.scoreCand A.E cfg.search.ftol cfg.search.mfc w.info peaks.toArray c' : C02.Cand β).hs = false) :
    ∃ r, (spectrumRows A cfg w file sp)[0]? = some r ∧ r.rank = 1 ∧ r.pepIx = c.peptide ∧ r.charge = c.charge ∧
      r.iso = c.iso := by
  refine row_of_psm hdb hw hstd file hprep ?_
  rw [search_std hstd]
  exact buildFeatures_first htle hr hc hm hmin hbest fun _ => rfl

/-- over a built database the index builds whenever the bucket size is positive (C03 `buildIndex_inv`) -/
theorem worldOf_isSome (A : Arith α β) (cfg : PCfg α) (targets : List (C05.Seq × C05.Seq)) (db : List (C08.DbPep α))
    (hdb : C08.buildDb cfg.db targets = some db) (hB : 0 < cfg.bucket) : ∃ w, worldOf A cfg db = some w :=
  (worldOf_inv A hdb hB).imp fun _ h => h.1

/-- the run succeeds whenever the FASTA text parses, there is something to digest (C08 `buildDb_isSome`) and the bucket
    size is positive -/
theorem pipeline_isSome (A : Arith α β) (cfg : PCfg α) (fasta : C05.Seq) (files : List (List (C17.Line α)))
    (targets : List (C05.Seq × C05.Seq)) (hp : C05.parse cfg.db.tag cfg.db.gen fasta = some targets)
    (hd : C08.fastaDigest cfg.db.par cfg.db.tag cfg.db.gen targets ≠ []) (hB : 0 < cfg.bucket) :
    ∃ rows, pipeline A cfg fasta files = some rows := by
  obtain ⟨db, hdb⟩ := Option.isSome_iff_exists.1 (C08.buildDb_isSome cfg.db targets hd)
  obtain ⟨w, hw⟩ := worldOf_isSome A cfg targets db hdb hB
  simp only [pipeline, buildWorld, hp, hdb, Option.bind_some, hw]
  exact ⟨_, rfl⟩

end ordered

/-! The hyperscore `ln((Ib+1)(Iy+1)) + lnfact(nb) + lnfact(ny)` (C04 `hyperscore_def`) is strictly larger for the
candidate whose matched set dominates (`Dominated`), under laws on the environment (`HyperLaws`) that are hypotheses of
the theorems, not axioms. The shape of the `lnfact` law: the code's `lnfact 0 = 1.0` exceeds `lnfact 1 ≈ −0.08` and
`lnfact 2 ≈ 0.999`, so "fewer matches ⇒ lower score" is false of the real function when a terminus goes from 1 or 2
matches to 0; `Dominated` therefore asks that a competitor with no b (y) match faces a planted candidate with 0 or ≥ 3
b (y) matches. -/

section ladder
variable {α β : Type} [LinearOrder α] [LinearOrder β]

/-- laws of exact arithmetic the strict comparison of two hyperscores needs (hypotheses, not axioms) -/
structure HyperLaws (E : Env α β) : Prop where
  add_one_mono : ∀ a b : α, a ≤ b → E.add a (E.ofNat 1) ≤ E.add b (E.ofNat 1)
  add_one_strict : ∀ a b : α, a < b → E.add a (E.ofNat 1) < E.add b (E.ofNat 1)
  add_one_pos : ∀ a : α, E.ofNat 0 ≤ a → E.ofNat 0 < E.add a (E.ofNat 1)
  cast_mono : ∀ a b : α, a ≤ b → E.cast a ≤ E.cast b
  cast_strict : ∀ a b : α, a < b → E.cast a < E.cast b
  cast_pos : ∀ a : α, E.ofNat 0 < a → E.ofNatD 0 < E.cast a
  mulD_pos : ∀ a c : β, E.ofNatD 0 < a → E.ofNatD 0 < c → E.ofNatD 0 < E.mulD a c
  mulD_lt_left : ∀ a b c d : β, E.ofNatD 0 < a → E.ofNatD 0 < c → a < b → c ≤ d → E.mulD a c < E.mulD b d
  mulD_lt_right : ∀ a b c d : β, E.ofNatD 0 < a → E.ofNatD 0 < c → a ≤ b → c < d → E.mulD a c < E.mulD b d
  ln_strict : ∀ x y : β, E.ofNatD 0 < x → x < y → E.ln x < E.ln y
  addD_mono : ∀ a b c d : β, a ≤ b → c ≤ d → E.addD a c ≤ E.addD b d
  addD_strict : ∀ a b c d : β, a < b → c ≤ d → E.addD a c < E.addD b d
  lnfact_mono : ∀ n m : Nat, 1 ≤ n → n ≤ m → C04.lnfact E n ≤ C04.lnfact E m
  lnfact_zero : ∀ m : Nat, 3 ≤ m → C04.lnfact E 0 ≤ C04.lnfact E m
  /-- no overflow: the `255` guard is never taken -/
  finite : ∀ s : β, E.isFinite s = true

/-- no more matches and no more matched intensity at either terminus, strictly less intensity at one, intensity sums
    non-negative, and a terminus without any match faces 0 or at least 3 matches (`lnfact 0 = 1.0`) -/
def Dominated (E : Env α β) (v' v : C04.SpecVals α β) : Prop :=
  v'.nb ≤ v.nb ∧ v'.ny ≤ v.ny ∧ (v'.nb = 0 → v.nb = 0 ∨ 3 ≤ v.nb) ∧ (v'.ny = 0 → v.ny = 0 ∨ 3 ≤ v.ny) ∧
  E.ofNat 0 ≤ v'.ib ∧ E.ofNat 0 ≤ v'.iy ∧ v'.ib ≤ v.ib ∧ v'.iy ≤ v.iy ∧ (v'.ib < v.ib ∨ v'.iy < v.iy)

instance (E : Env α β) (v' v : C04.SpecVals α β) : Decidable (Dominated E v' v) := by
  unfold Dominated; infer_instance

theorem not_dominated_self (E : Env α β) (v : C04.SpecVals α β) : ¬ Dominated E v v := by
  rintro ⟨_, _, _, _, _, _, _, _, h | h⟩ <;> exact lt_irrefl _ h

theorem lnfact_le_of_dominated {E : Env α β} (L : HyperLaws E) {n' n : Nat} (h : n' ≤ n)
    (h0 : n' = 0 → n = 0 ∨ 3 ≤ n) : C04.lnfact E n' ≤ C04.lnfact E n := by
  rcases Nat.eq_zero_or_pos n' with hz | hp
  · subst hz
    rcases h0 rfl with hn | hn
    · subst hn; exact le_refl _
    · exact L.lnfact_zero n hn
  · exact L.lnfact_mono n' n hp h

/-- For every environment satisfying `HyperLaws`, the hyperscore of a dominated matched set is strictly smaller. -/
theorem ladder_strictly_best (E : Env α β) (L : HyperLaws E) (v' v : C04.SpecVals α β) (hd : Dominated E v' v) :
    C04.specHyperscore E v'.nb v'.ny v'.ib v'.iy < C04.specHyperscore E v.nb v.ny v.ib v.iy := by
  obtain ⟨hnb, hny, hb0, hy0, hib0, hiy0, hib, hiy, hstrict⟩ := hd
  have pa' := L.cast_pos _ (L.add_one_pos _ hib0)
  have pc' := L.cast_pos _ (L.add_one_pos _ hiy0)
  unfold C04.specHyperscore C04.guard255
  rw [L.finite, L.finite]
  simp only [if_true]
  refine L.addD_strict _ _ _ _ (L.addD_strict _ _ _ _ (L.ln_strict _ _ (L.mulD_pos _ _ pa' pc') ?_)
    (lnfact_le_of_dominated L hnb hb0)) (lnfact_le_of_dominated L hny hy0)
  -- both factors of the dominated product are positive; one grows strictly, the other weakly
  rcases hstrict with hs | hs
  · exact L.mulD_lt_left _ _ _ _ pa' pc' (L.cast_strict _ _ (L.add_one_strict _ _ hs))
      (L.cast_mono _ _ (L.add_one_mono _ _ hiy))
  · exact L.mulD_lt_right _ _ _ _ pa' pc' (L.cast_mono _ _ (L.add_one_mono _ _ hib))
      (L.cast_strict _ _ (L.add_one_strict _ _ hs))

/-- the naive matched-set values (C04 `specVals`) of peptide `pep` scored at precursor charge `z` on `peaks` -/
def candVals (E : Env α β) (ftol : C03.Tol α) (mfcCfg : Option Nat) (info : C02.PepInfo α) (peaks : Array (Peak α))
    (pep z : Nat) : C04.SpecVals α β :=
  C04.specVals E (info.len pep)
    (C04.specMatches E (fun mz => C04.select E peaks mz ftol none)
      (C04.fragCharges (info.series pep) (C04.maxFragmentCharge mfcCfg z)))

/-- what `score_candidate` stores for a preliminary entry, in terms of its matched set (C04 `hyperscore_def`,
    `scoreCandidate_spec`) -/
theorem scoreCand_vals (E : Env α β) (ftol : C03.Tol α) (mfcCfg : Option Nat) (info : C02.PepInfo α)
    (peaks : Array (Peak α)) (pre : PreScore) :
    (C02.scoreCand E ftol mfcCfg info peaks pre : C02.Cand β).hs =
      C04.specHyperscore E (candVals E ftol mfcCfg info peaks pre.peptide pre.charge).nb
        (candVals E ftol mfcCfg info peaks pre.peptide pre.charge).ny
        (candVals E ftol mfcCfg info peaks pre.peptide pre.charge).ib
        (candVals E ftol mfcCfg info peaks pre.peptide pre.charge).iy ∧
    (C02.scoreCand E ftol mfcCfg info peaks pre : C02.Cand β).matched =
      (candVals E ftol mfcCfg info peaks pre.peptide pre.charge).nb +
      (candVals E ftol mfcCfg info peaks pre.peptide pre.charge).ny := by
  have h1 := C04.hyperscore_def E (fun mz => C04.select E peaks mz ftol none) (info.series pre.peptide)
    (info.len pre.peptide) (C04.maxFragmentCharge mfcCfg pre.charge) false
  have h2 := C04.scoreCandidate_spec E (fun mz => C04.select E peaks mz ftol none) (info.series pre.peptide)
    (info.len pre.peptide) (C04.maxFragmentCharge mfcCfg pre.charge) false false
  simp only at h1 h2
  obtain ⟨hb, hy, -⟩ := h2
  unfold C02.scoreCand candVals
  exact ⟨h1, by simp only [hb, hy]⟩

/-- the "complete ladder" premise in its literal form: if every (fragment, charge) pair of the candidate finds a peak
    within the fragment tolerance, its matched count `nb + ny` is the number of pairs -/
theorem full_ladder_count {α β : Type} (E : Env α β) (sel : α → Option (Peak α)) (n : Nat) (fzs : List (C04.FZ α))
    (h : ∀ f ∈ fzs, (sel (C04.mzOf E f)).isSome = true) :
    (C04.specVals E n (C04.specMatches E sel fzs)).nb + (C04.specVals E n (C04.specMatches E sel fzs)).ny =
      fzs.length := by
  have hlen : (C04.specMatches E sel fzs).length = fzs.length :=
    List.filterMap_length_eq_length.mpr fun f hf => by rw [Option.isSome_map]; exact h f hf
  unfold C04.specVals
  exact (List.length_eq_length_filter_add _).symm.trans hlen

/-- the exception made visible: a competitor with the same ion series and length (e.g. the I/L-swapped reversal of the
    planted peptide) has the SAME matched set at the same charge, so the strictness premise cannot hold for it -/
theorem not_dominated_of_same_series (E : Env α β) (ftol : C03.Tol α) (mfcCfg : Option Nat) (info : C02.PepInfo α)
    (peaks : Array (Peak α)) (p p' z : Nat) (hs : info.series p' = info.series p) (hl : info.len p' = info.len p) :
    ¬ Dominated E (candVals E ftol mfcCfg info peaks p' z) (candVals E ftol mfcCfg info peaks p z) := by
  unfold candVals
  rw [hs, hl]
  exact not_dominated_self E _

/-- were it dropped, the `≥ K` kept elements and itself would all have a matched count `≥` its own -/
theorem mem_kept_of_topSplit {K : Nat} {kept dropped all : List PreScore} (ts : C02.TopSplit K kept dropped all)
    {c : PreScore} (hc : c ∈ all) (hK : (all.filter fun y => decide (c.matched ≤ y.matched)).length ≤ K) :
    c ∈ kept := by
  rcases List.mem_append.mp (ts.perm.mem_iff.mpr hc) with h | hdrop
  · exact h
  · exfalso
    have hfull := ts.full (List.ne_nil_of_mem hdrop)
    have hlen := (ts.perm.filter fun y => decide (c.matched ≤ y.matched)).length_eq
    have hkept : (kept.filter fun y => decide (c.matched ≤ y.matched)) = kept :=
      List.filter_eq_self.mpr fun x hx => decide_eq_true (C02.PreScore.matched_le_of_le (ts.ge x hx c hdrop))
    have hd1 : 0 < (dropped.filter fun y => decide (c.matched ≤ y.matched)).length :=
      List.length_pos_of_mem (List.mem_filter.mpr ⟨hdrop, decide_eq_true (Nat.le_refl _)⟩)
    rw [List.filter_append, List.length_append, hkept] at hlen
    omega

/-- An entry of the dense vectors of the searched windows is retained by the three levels of trimming whenever at
    most `K = max 50 (2·report_psms)` entries have a preliminary matched count `≥` its own (C02 `retained_topk`). -/
theorem survives_trim (E : Env α β) (db : C02.Db α) (cfg : C02.Cfg α) (peaks : List (Peak α)) (prec : C02.Precursor α)
    (c : PreScore) (hc : c ∈ C02.allRaw E db cfg peaks prec)
    (hK : ((C02.allRaw E db cfg peaks prec).filter fun y => decide (c.matched ≤ y.matched)).length ≤
      max 50 (2 * cfg.reportPsms)) :
    c ∈ (C02.initialHits E db cfg peaks prec).prelim.toList := by
  obtain ⟨dropped, ts⟩ := C02.retained_topk E db cfg peaks prec
  exact mem_kept_of_topSplit ts hc hK

/-- `survives_trim` when the searched windows hold at most `K` slots -/
theorem survives_trim_small (E : Env α β) (db : C02.Db α) (cfg : C02.Cfg α) (peaks : List (Peak α))
    (prec : C02.Precursor α) (c : PreScore) (hc : c ∈ C02.allRaw E db cfg peaks prec)
    (hK : (C02.allRaw E db cfg peaks prec).length ≤ max 50 (2 * cfg.reportPsms)) :
    c ∈ (C02.initialHits E db cfg peaks prec).prelim.toList :=
  survives_trim E db cfg peaks prec c hc (le_trans (List.length_filter_le _ _) hK)

/-- `survives_trim` when the entry occurs once and its preliminary count is strictly the largest -/
theorem survives_trim_max (E : Env α β) (db : C02.Db α) (cfg : C02.Cfg α) (peaks : List (Peak α))
    (prec : C02.Precursor α) (c : PreScore) (hc : c ∈ C02.allRaw E db cfg peaks prec)
    (hone : (C02.allRaw E db cfg peaks prec).count c = 1)
    (hmax : ∀ y ∈ C02.allRaw E db cfg peaks prec, y ≠ c → y.matched < c.matched) :
    c ∈ (C02.initialHits E db cfg peaks prec).prelim.toList := by
  apply survives_trim E db cfg peaks prec c hc
  -- only `c` itself reaches `c`'s count
  have hfil : ∀ y ∈ C02.allRaw E db cfg peaks prec, decide (c.matched ≤ y.matched) = (y == c) := fun y hy =>
    decide_eq_decide.mpr ⟨fun h => by_contra fun hyc => Nat.not_le.mpr (hmax y hy hyc) h, fun h => h ▸ Nat.le_refl _⟩
  rw [List.filter_congr hfil, ← List.count_eq_length_filter, hone]
  exact le_max_of_le_left (by decide)

/-- a database peptide inside a searched (charge, isotope) window with an indexed fragment matched by a peak is an
    entry of the dense vectors (`allRaw`), with the number of its hits as preliminary count (C02 `candidates_exact`) -/
theorem mem_allRaw_of_hit (E : Env α β) (db : C02.Db α) (inv : C03.DbInv db.masses db.minv db.frags db.B)
    (cfg : C02.Cfg α) (peaks : List (Peak α)) (prec : C02.Precursor α)
    (zt : Nat × C03.Tol α) (hzt : zt ∈ C02.searched E cfg prec) (e : Int) (he : e ∈ C02.isotopes cfg.isoLo cfg.isoHi)
    (f : C03.Frag α)
    (hf : f ∈ C02.scanHits E db zt.2 cfg.ftol
      (C02.queryMass E (E.mul (E.sub prec.mz E.proton) (E.ofNat zt.1)) e) peaks (C04.maxFragmentCharge cfg.mfc zt.1)) :
    ∃ c ∈ C02.allRaw E db cfg peaks prec, c.peptide = f.pep ∧ c.charge = zt.1 ∧ c.iso = e ∧ 0 < c.matched ∧
      c.matched = ((C02.scanHits E db zt.2 cfg.ftol
        (C02.queryMass E (E.mul (E.sub prec.mz E.proton) (E.ofNat zt.1)) e) peaks
        (C04.maxFragmentCharge cfg.mfc zt.1)).map (·.pep)).count f.pep := by
  obtain ⟨_, _, hwin, hslots⟩ := C02.candidates_exact E db inv cfg.ftol zt.2 cfg.mfc peaks
    (E.mul (E.sub prec.mz E.proton) (E.ofNat zt.1)) zt.1 e
  obtain ⟨hlo, hidx, _⟩ := hwin f hf
  obtain ⟨sc, hsc, hcount, _, hpos⟩ := hslots _ hidx
  rw [Nat.add_sub_cancel' hlo] at hcount hpos
  have hcpos : 0 < sc.matched := by
    rw [hcount]
    exact List.count_pos_iff.mpr (List.mem_map.mpr ⟨f, hf, rfl⟩)
  obtain ⟨h1, h2, h3⟩ := hpos hcpos
  refine ⟨sc, ?_, h1, h2, h3, hcpos, hcount⟩
  unfold C02.allRaw C02.rawOf
  exact List.mem_flatMap.mpr ⟨zt, hzt, List.mem_flatMap.mpr ⟨e, he, Array.mem_toList_iff.mpr (Array.mem_of_getElem? hsc)⟩⟩

theorem totalPre_of_le {tle : β → β → Bool} (h : ∀ x y, tle x y = decide (x ≤ y)) : C02.TotalPre tle where
  total x y := by simpa only [h, decide_eq_true_eq] using le_total x y
  trans x y z := by simpa only [h, decide_eq_true_eq] using le_trans

/-- Search level (any fragment index, standard mode, `report_psms ≥ 1`): let `c` be an entry of the dense vectors of
    the searched windows such that at most `K = max 50 (2·report_psms)` entries have a preliminary count `≥ c`'s, its
    full matched set reaches `min_matched_peaks`, and the matched set of every other entry with a preliminary match is
    `Dominated` by `c`'s. Then, for every environment satisfying `HyperLaws`, `Scorer::score` reports `c`'s peptide
    first, at rank 1, with `c`'s charge and isotope offset. -/
theorem search_planted_found (A : Arith α β) (hAtle : ∀ x y, A.tle x y = decide (x ≤ y)) (L : HyperLaws A.E)
    (db : C02.Db α) (cfg : C02.Cfg α) (info : C02.PepInfo α) (peaks : List (Peak α)) (prec : C02.Precursor α)
    (hstd : cfg.chimera = false) (hr : 0 < cfg.reportPsms)
    (c : PreScore) (hc : c ∈ C02.allRaw A.E db cfg peaks prec) (hm : 0 < c.matched)
    (hK : ((C02.allRaw A.E db cfg peaks prec).filter fun y => decide (c.matched ≤ y.matched)).length ≤
      max 50 (2 * cfg.reportPsms))
    (hmin : cfg.minMatched ≤ (candVals A.E cfg.ftol cfg.mfc info peaks.toArray c.peptide c.charge).nb +
      (candVals A.E cfg.ftol cfg.mfc info peaks.toArray c.peptide c.charge).ny)
    (hbest : ∀ c' ∈ C02.allRaw A.E db cfg peaks prec, c' ≠ c → 0 < c'.matched →
      Dominated A.E (candVals A.E cfg.ftol cfg.mfc info peaks.toArray c'.peptide c'.charge)
        (candVals A.E cfg.ftol cfg.mfc info peaks.toArray c.peptide c.charge)) :
    ∃ p, (C02.search A.E A.tle db cfg info peaks prec).2[0]? = some p ∧ p.rank = 1 ∧ p.pep = c.peptide ∧
      p.charge = c.charge ∧ p.iso = c.iso := by
  rw [search_std hstd]
  refine buildFeatures_first (totalPre_of_le hAtle) hr (survives_trim A.E db cfg peaks prec c hc hK) hm ?_ ?_
    fun _ => rfl
  · rw [(scoreCand_vals A.E cfg.ftol cfg.mfc info peaks.toArray c).2]; exact hmin
  · intro c' hc' hne hm' _
    -- a retained entry is an entry of the dense vectors, so `hbest` applies
    obtain ⟨dropped, ts⟩ := C02.retained_topk A.E db cfg peaks prec
    have hlt := ladder_strictly_best A.E L _ _
      (hbest c' (ts.perm.mem_iff.mp (List.mem_append_left _ hc')) hne hm')
    rw [(scoreCand_vals A.E cfg.ftol cfg.mfc info peaks.toArray c).1,
      (scoreCand_vals A.E cfg.ftol cfg.mfc info peaks.toArray c').1, hAtle]
    exact decide_eq_false (not_le.mpr hlt)

end ladder

section plantedPipeline
variable {α β : Type} [LinearOrder α] [LinearOrder β] [Add α] [Sub α] [Mul α] [Neg α] [OfNat α 0] [C10.Num α]
  [C17.NumOps α]

/-- The property's last sentence for the pipeline model (standard mode, `report_psms ≥ 1`, `HyperLaws`, hyperscores
    compared by `≤`): let database peptide `f.pep` have an indexed fragment `f` matched by a peak inside the searched
    window `(zt, e)`. If at most `K` dense-vector entries have a preliminary count `≥` the planted candidate's (`hK`),
    its full matched set reaches `min_matched_peaks` (`hmin`), and the matched set of every other candidate entry is
    `Dominated` by the planted one's (`hbest`), then the first row of the spectrum is the planted peptide at rank 1, at
    charge `zt.1` and isotope offset `e`. Assumed: `HyperLaws`, and `Dominated` on the matched-set values rather than on
    the peak list. -/
theorem planted_found (A : Arith α β) (hAtle : ∀ x y, A.tle x y = decide (x ≤ y)) (L : HyperLaws A.E)
    (cfg : PCfg α) (targets : List (C05.Seq × C05.Seq)) (db : List (C08.DbPep α)) (w : World α)
    (hdb : C08.buildDb cfg.db targets = some db) (hw : worldOf A cfg db = some w)
    (hstd : cfg.search.chimera = false) (hr : 0 < cfg.search.reportPsms) (file : Nat) (sp : C17.Spectrum α)
    (peaks : List (Peak α)) (tic : α) (prec : C02.Precursor α) (hprep : prepare cfg sp = some (peaks, tic, prec))
    (zt : Nat × C03.Tol α) (hzt : zt ∈ C02.searched A.E cfg.search prec) (e : Int)
    (he : e ∈ C02.isotopes cfg.search.isoLo cfg.search.isoHi) (f : C03.Frag α)
    (hf : f ∈ C02.scanHits A.E w.idx zt.2 cfg.search.ftol
      (C02.queryMass A.E (A.E.mul (A.E.sub prec.mz A.E.proton) (A.E.ofNat zt.1)) e) peaks
      (C04.maxFragmentCharge cfg.search.mfc zt.1))
    (hK : ∀ c ∈ C02.allRaw A.E w.idx cfg.search peaks prec, c.peptide = f.pep → c.charge = zt.1 → c.iso = e →
      ((C02.allRaw A.E w.idx cfg.search peaks prec).filter fun y => decide (c.matched ≤ y.matched)).length ≤
        max 50 (2 * cfg.search.reportPsms))
    (hmin : cfg.search.minMatched ≤
      (candVals A.E cfg.search.ftol cfg.search.mfc w.info peaks.toArray f.pep zt.1).nb +
      (candVals A.E cfg.search.ftol cfg.search.mfc w.info peaks.toArray f.pep zt.1).ny)
    (hbest : ∀ c' ∈ C02.allRaw A.E w.idx cfg.search peaks prec,
      ¬ (c'.peptide = f.pep ∧ c'.charge = zt.1 ∧ c'.iso = e ∧ c'.matched = ((C02.scanHits A.E w.idx zt.2 cfg.search.ftol
        (C02.queryMass A.E (A.E.mul (A.E.sub prec.mz A.E.proton) (A.E.ofNat zt.1)) e) peaks
        (C04.maxFragmentCharge cfg.search.mfc zt.1)).map (·.pep)).count f.pep) → 0 < c'.matched →
      Dominated A.E (candVals A.E cfg.search.ftol cfg.search.mfc w.info peaks.toArray c'.peptide c'.charge)
        (candVals A.E cfg.search.ftol cfg.search.mfc w.info peaks.toArray f.pep zt.1)) :
    ∃ r, (spectrumRows A cfg w file sp)[0]? = some r ∧ r.rank = 1 ∧ r.pepIx = f.pep ∧ r.charge = zt.1 ∧ r.iso = e := by
  have inv := world_inv A cfg targets db w hdb hw
  obtain ⟨c, hc, hp, hz, hi, hm, hcount⟩ := mem_allRaw_of_hit A.E w.idx inv cfg.search peaks prec zt hzt e he f hf
  obtain ⟨p, hp0, h1, h2, h3, h4⟩ := search_planted_found A hAtle L w.idx cfg.search w.info peaks prec hstd hr c hc hm
    (hK c hc hp hz hi) (by rw [hp, hz]; exact hmin) fun c' hc' hne hm' => by
      rw [hp, hz]
      refine hbest c' hc' ?_ hm'
      -- an entry with `c`'s four fields is `c`
      rintro ⟨q1, q2, q3, q4⟩
      cases c'; cases c
      simp only [ne_eq, C02.PreScore.mk.injEq] at hne
      exact hne ⟨q4.trans hcount.symm, q1.trans hp.symm, q2.trans hz.symm, q3.trans hi.symm⟩
  exact row_of_psm hdb hw hstd file hprep ⟨p, hp0, h1, h2.trans hp, h3.trans hz, h4.trans hi⟩

end plantedPipeline

/-! A concrete run in exact rationals. Toy world (C08's example data): residue table A = 71, C = 103, G = 57, K = 128,
water 18, proton = neutron = 1, cleave after K, no missed cleavages, generated decoys `rev_`; FASTA `>P1 AAKGGK`,
`>P2 GGKCCK`; one MGF spectrum = the b/y ladder of `GGK`, precursor m/z (260 + 2)/2, charge 2+. The kernel cannot unfold
the well-founded merge sorts, so the row itself (`#eval`: rank 1, peptide `GGK`, proteins `P1;P2`, label 1) is not
stated; that the hypotheses of the theorems are met is proved below. -/

namespace Ex

def E : Env Rat Rat :=
  { add := (· + ·), sub := (· - ·), mul := (· * ·), div := (· / ·), abs := fun x => if x < 0 then -x else x,
    neg := fun x => -x, ofNat := fun n => (n : Rat), proton := 1, neutron := 1, cast := id,
    addD := (· + ·), subD := (· - ·), mulD := (· * ·), divD := (· / ·), negD := fun x => -x,
    ofNatD := fun n => (n : Rat), half := 1/2, pi := 3, tiny := 0, ln := id, exp := id, log10 := id, ln1p := id,
    isFinite := fun _ => true, isInf := fun _ => false }

def A : Arith Rat Rat :=
  { E := E, K := { c := 12, o := 16, h := 1, n := 14, three := 3 }, tle := fun x y => decide (x ≤ y) }

instance numOpsRat : C17.NumOps Rat where
  zero := 0
  one := 1
  sum0 := 0
  add := (· + ·)
  div60 := (· / 60)
  abs := fun x => if x < 0 then -x else x
  neg := fun x => -x

def cfg : PCfg Rat :=
  { db := { par := C08.Ex.par, tag := [114, 101, 118, 95], gen := true, h2o := 18,
            table := C08.Ex.table.map (fun n => (n : Rat)), vars := [], statics := [], maxVar := 1, lo := 0, hi := 100000 }
    kinds := [.b, .y], minIonIndex := 0, bucket := 4
    search := { ptol := .da (-1/2) (1/2), ftol := .da (-1/2) (1/2), minMatched := 2, isoLo := 0, isoHi := 0,
                zLo := 2, zHi := 3, overrideCharge := false, mfc := none, chimera := false, reportPsms := 2,
                wideWindow := false, defaultIsoWin := .da (-2) 2 }
    proc := { takeTopN := 10, deisotope := false, minDeisoMz := 0 }
    minPeaks := 2 }

def files : List (List (C17.Line Rat)) :=
  [mgfLines [("scan=1", (131 : Rat), some 2, (60 : Rat), [((58 : Rat), (10 : Rat)), (115, 20), (147, 30), (204, 40)])]]

/-- the hypotheses of `rows_ranked` on `tle` and `sub` hold of exact `≤`, `−` -/
theorem totalPre : C02.TotalPre A.tle :=
  totalPre_of_le fun _ _ => rfl

theorem subOk : ∀ x y, A.tle y x = true → A.tle (A.E.ofNatD 0) (A.E.subD x y) = true := by
  intro x y h
  exact decide_eq_true ((Nat.cast_zero (R := Rat)).le.trans (sub_nonneg.mpr (of_decide_eq_true h)))

end Ex

/-- the hypotheses of `world_inv`, `rows_complete`, `rows_ranked`, `planted_found_partial` are met: the database of
    the toy FASTA builds, its index builds, and the index invariant holds -/
example : ∃ db w, C08.buildDb Ex.cfg.db C08.Ex.fasta = some db ∧ worldOf Ex.A Ex.cfg db = some w ∧
    C03.DbInv w.idx.masses w.idx.minv w.idx.frags w.idx.B ∧ Ex.cfg.search.chimera = false ∧
    0 < Ex.cfg.search.reportPsms := by
  obtain ⟨db, hdb⟩ := Option.isSome_iff_exists.1 (C08.buildDb_isSome Ex.cfg.db C08.Ex.fasta (by decide +kernel))
  obtain ⟨w, hw, inv⟩ := worldOf_inv Ex.A hdb (by decide)
  exact ⟨db, w, hdb, hw, inv, rfl, by decide⟩

/-- … and so is the hypothesis `pipeline … = some rows` of `rows_entry`, `rows_in_window`, `rows_sources`, for EVERY
    list of spectrum files over that FASTA (rendered as text and read back by the C05 reader) -/
example (files : List (List (C17.Line Rat))) :
    ∃ rows, pipeline Ex.A Ex.cfg (fastaText C08.Ex.fasta) files = some rows :=
  pipeline_isSome Ex.A Ex.cfg _ files C08.Ex.fasta (by decide +kernel) (by decide +kernel) (by decide)

/-- in C02's toy environment over ℕ (`ln` = identity, `half = 0`) `lnfact n = n² − n` for `n ≥ 1`, and `lnfact 0 = 1` -/
theorem lnfact_exNat (n : Nat) (hn : n ≠ 0) : C04.lnfact C02.exEnv n = n * (n - 1) := by
  simp only [C04.lnfact, C02.exEnv, id, if_neg hn, Nat.zero_mul, Nat.add_zero, Nat.mul_sub_one]

/-- `HyperLaws` of C02's toy environment over ℕ: the order laws are those of an ordered semiring; `lnfact 0 = 1` is
    below `lnfact 3 = 6`, hence below `lnfact m` for `m ≥ 3` -/
theorem exLawsNat : HyperLaws C02.exEnv := by
  have hmono : ∀ n m : Nat, 1 ≤ n → n ≤ m → C04.lnfact C02.exEnv n ≤ C04.lnfact C02.exEnv m := by
    intro n m hn hnm
    rw [lnfact_exNat n (Nat.ne_of_gt hn), lnfact_exNat m (Nat.ne_of_gt (hn.trans hnm))]
    exact Nat.mul_le_mul hnm (Nat.sub_le_sub_right hnm 1)
  exact {
    add_one_mono := fun a b h => Nat.succ_le_succ h
    add_one_strict := fun a b h => Nat.succ_lt_succ h
    add_one_pos := fun a _ => Nat.succ_pos a
    cast_mono := fun a b h => h
    cast_strict := fun a b h => h
    cast_pos := fun a h => h
    mulD_pos := fun a c ha hc => Nat.mul_pos ha hc
    mulD_lt_left := fun a b c d ha hc hab hcd => mul_lt_mul hab hcd hc (ha.trans hab).le
    mulD_lt_right := fun a b c d ha hc hab hcd => mul_lt_mul' hab hcd hc.le (ha.trans_le hab)
    ln_strict := fun x y _ h => h
    addD_mono := fun a b c d h1 h2 => Nat.add_le_add h1 h2
    addD_strict := fun a b c d h1 h2 => add_lt_add_of_lt_of_le h1 h2
    lnfact_mono := hmono
    lnfact_zero := fun m hm => le_trans (by decide) (hmono 3 m (by decide) hm)
    finite := fun s => rfl }

/-- in the exact-rational environment `Ex.E` (`ln` = identity, `half = 1/2`, `pi = 3`) `lnfact n = n² + 5n/2` for
    `n ≥ 1`, and `lnfact 0 = 1` -/
theorem lnfact_exRat (n : Nat) (hn : n ≠ 0) : C04.lnfact Ex.E n = (n : Rat) * n + 5 / 2 * n := by
  simp only [C04.lnfact, Ex.E, id, if_neg hn]
  ring

/-- `HyperLaws` of the exact-rational environment `Ex.E`, by the same argument (`lnfact 3 = 33/2`) -/
theorem exLawsRat : HyperLaws Ex.E := by
  have hmono : ∀ n m : Nat, 1 ≤ n → n ≤ m → C04.lnfact Ex.E n ≤ C04.lnfact Ex.E m := by
    intro n m hn hnm
    rw [lnfact_exRat n (Nat.ne_of_gt hn), lnfact_exRat m (Nat.ne_of_gt (hn.trans hnm))]
    have h : (n : Rat) ≤ m := Nat.cast_le.mpr hnm
    exact add_le_add (mul_le_mul h h (Nat.cast_nonneg n) (Nat.cast_nonneg m))
      (Rat.mul_le_mul_of_nonneg_left h (by decide +kernel))
  exact {
    add_one_mono := fun a b h => Rat.add_le_add_right.mpr h
    add_one_strict := fun a b h => Rat.add_lt_add_right.mpr h
    add_one_pos := fun a h => lt_of_le_of_lt h (lt_add_of_pos_right a (by decide))
    cast_mono := fun a b h => h
    cast_strict := fun a b h => h
    cast_pos := fun a h => h
    mulD_pos := fun a c ha hc => Rat.mul_pos ha hc
    mulD_lt_left := fun a b c d ha hc hab hcd => mul_lt_mul hab hcd hc (ha.trans hab).le
    mulD_lt_right := fun a b c d ha hc hab hcd => mul_lt_mul' hab hcd hc.le (ha.trans_le hab)
    ln_strict := fun x y _ h => h
    addD_mono := fun a b c d h1 h2 => add_le_add h1 h2
    addD_strict := fun a b c d h1 h2 => add_lt_add_of_lt_of_le h1 h2
    lnfact_mono := hmono
    lnfact_zero := fun m hm => le_trans (by decide +kernel) (hmono 3 m (by decide) hm)
    finite := fun s => rfl }

/-- `ladder_strictly_best` is not vacuous: a full ladder (3 b, 3 y matches, intensities 6 and 9) against a competitor
    matching a subset (1 b, 3 y, intensities 2 and 9) in exact rationals: the hyperscore is strictly larger -/
example :
    C04.specHyperscore Ex.E 1 3 2 9 < C04.specHyperscore Ex.E 3 3 6 9 :=
  ladder_strictly_best Ex.E exLawsRat
    { nb := 1, ny := 3, ib := 2, iy := 9, ppmNum := 0, idxB := [], idxY := [], rows := [] }
    { nb := 3, ny := 3, ib := 6, iy := 9, ppmNum := 0, idxB := [], idxY := [], rows := [] }
    (by decide +kernel)

/-- the toy search of C02 (`exDb`: 4 peptides, peaks at 20 and 30, precursor window [100, 105]) as an `Arith` -/
def exArithNat : Arith Nat Nat :=
  { E := C02.exEnv, K := { c := 12, o := 16, h := 1, n := 14, three := 3 }, tle := fun x y => decide (x ≤ y) }

/-- ALL premises of `search_planted_found` hold in C02's toy world for the entry of peptide 0 (both of its fragments
    20 and 30 are matched: count 2, `nb = 2`, `Ib = 2`; peptides 1 and 2 match one fragment each: `nb' = 1`, `Ib' = 1`;
    the windows hold 4 slots ≤ 50), and so the conclusion: peptide 0 is reported first, at rank 1 -/
example : ∃ p, (C02.search exArithNat.E exArithNat.tle C02.exDb C02.exCfg C02.exInfo C02.exPeaks C02.exPrec).2[0]? = some p ∧
    p.rank = 1 ∧ p.pep = 0 ∧ p.charge = 2 ∧ p.iso = 0 :=
  search_planted_found exArithNat (fun _ _ => rfl) exLawsNat C02.exDb C02.exCfg C02.exInfo C02.exPeaks C02.exPrec rfl
    (by decide) ⟨2, 0, 2, 0⟩ (C02.exAllRaw ▸ List.mem_cons_self) (by decide) (C02.exAllRaw ▸ by decide) (by decide +kernel)
    (C02.exAllRaw ▸ by decide +kernel)

/-- `survives_trim_small` alone: the entry of peptide 0 is among the 4 ≤ 50 slots of the searched window, hence retained -/
example : (⟨2, 0, 2, 0⟩ : PreScore) ∈ (C02.initialHits C02.exEnv C02.exDb C02.exCfg C02.exPeaks C02.exPrec).prelim.toList :=
  survives_trim_small C02.exEnv C02.exDb C02.exCfg C02.exPeaks C02.exPrec _ (C02.exAllRaw ▸ List.mem_cons_self)
    (C02.exAllRaw ▸ by decide)

/-- the hit premise of `mem_allRaw_of_hit` / `planted_found` is met there too: fragment 20 of peptide 0 is a hit of the
    linear scan of the searched window (charge 2, isotope offset 0) -/
example : ((C02.scanHits C02.exEnv C02.exDb (.da 0 5) C02.exCfg.ftol
    (C02.queryMass C02.exEnv (C02.exEnv.mul (C02.exEnv.sub C02.exPrec.mz C02.exEnv.proton) (C02.exEnv.ofNat 2)) 0)
    C02.exPeaks (C04.maxFragmentCharge C02.exCfg.mfc 2)).map fun f => (f.pep, f.mz)) =
    [(0, 20), (2, 30), (0, 30), (1, 30)] := by decide +kernel

/-! The exception: the I/L-swapped reversal. `PLFIK` (target) and `PIFLK` (its generated decoy: first and last residue
    fixed, inside reversed) have the same b- and y-series, residue by residue (I and L are isobaric) … -/

def ilK : C09.Consts Int := { c := 12, o := 16, h := 1, n := 14, three := 3 }
/-- toy integer masses P 97, L 113, F 147, I 113, K 128, water 18 -/
def pepPLFIK : C09.Pep Int := { residues := [97, 113, 147, 113, 128], mods := [0, 0, 0, 0, 0], nterm := 0, cterm := 0, mass := 616 }
def pepPIFLK : C09.Pep Int := { residues := [97, 113, 147, 113, 128], mods := [0, 0, 0, 0, 0], nterm := 0, cterm := 0, mass := 616 }

example : C09.ions ilK .b pepPLFIK = C09.ions ilK .b pepPIFLK ∧ C09.ions ilK .y pepPLFIK = C09.ions ilK .y pepPIFLK ∧
    C09.ions ilK .b pepPLFIK = [97, 210, 357, 470] := by decide +kernel

/-- … hence, whatever the spectrum, tolerance and charge, the decoy's matched set is NOT dominated by the target's: the
    strictness premise of `search_planted_found` / `planted_found` fails for this pair (and the real program reports the
    decoy: findings/C01-isobaric-decoy-outranks-planted-target.req) -/
example (E : Env Int Int) (ftol : C03.Tol Int) (mfc : Option Nat) (peaks : Array (Peak Int)) (z : Nat) :
    let info : C02.PepInfo Int :=
      { series := fun i => [(.b, C09.ions ilK .b (if i = 0 then pepPIFLK else pepPLFIK)),
                            (.y, C09.ions ilK .y (if i = 0 then pepPIFLK else pepPLFIK))]
        len := fun _ => 5 }
    ¬ Dominated E (candVals E ftol mfc info peaks 0 z) (candVals E ftol mfc info peaks 1 z) := by
  intro info
  exact not_dominated_of_same_series E ftol mfc info peaks 1 0 z (by decide +kernel) rfl

end Sage.C01
