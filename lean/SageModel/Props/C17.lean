import SageModel.Model.C17
import SageModel.Lemmas.C17Text

/-!
# C17 — MGF parsing is faithful, applies header defaults to every query, never panics

Property text: *Parsing an MGF document returns one MS2 spectrum per BEGIN IONS ... END IONS block that
has a title, a precursor mass and at least one peak, with the title, PEPMASS m/z and intensity,
RTINSECONDS converted to minutes, the peak list (intensity 1 when omitted) and one precursor per listed
charge state. CHARGE, TOL and TOLU given in the file header apply to every block that does not override
them - the first as much as the rest - a block's own values never leak into later blocks, and malformed
or empty input yields an error or an empty list, never a panic.*

The theorems are about `Sage.C17.parseLines`, the line-level model of `MgfReader::parse` (two-phase
state machine over classified lines), for every document (list of lines) of every length, every number
type `ν` and every choice of the float operations (`NumOps`) — they are structural; the last part
carries them over to `parseText`, the model on text. That the text layer of the model
(`lines`, `trim`, prefix tests, `split_ascii_whitespace`, `is_numeric`, the charge regex) and the
primitives `str::parse::<f32>` / `char::is_numeric` are those of the code rests on the correspondence run only.
"Never a panic" is a theorem about the model (a total function, `[]` without `BEGIN IONS`) and an
observation about the code (`catch_unwind` in the harness).
-/

namespace Sage.C17

variable {ν : Type} [NumOps ν]

theorem lastSome_append {α β : Type} (f : α → Option β) (l1 l2 : List α) :
    lastSome f (l1 ++ l2) = (lastSome f l2).orElse fun _ => lastSome f l1 := by
  induction l1 with
  | nil => rw [List.nil_append]; cases lastSome f l2 <;> rfl
  | cons a l1 ih =>
    rw [List.cons_append, lastSome, ih, lastSome]
    cases lastSome f l2 <;> rfl

theorem lastSome_append_singleton {α β : Type} (f : α → Option β) (l : List α) (a : α) :
    lastSome f (l ++ [a]) = (f a).orElse fun _ => lastSome f l :=
  lastSome_append f l [a]

/-- `lastSome` is "the last element of the sub-list where `f` is defined" -/
theorem lastSome_eq_getLast? {α β : Type} (f : α → Option β) (l : List α) :
    lastSome f l = (l.filterMap f).getLast? := by
  induction l with
  | nil => rfl
  | cons a l ih =>
    rw [lastSome, ih, List.filterMap_cons]
    cases f a with
    | none => cases (l.filterMap f).getLast? <;> rfl
    | some b => rw [List.getLast?_cons]; cases (l.filterMap f).getLast? <;> rfl

theorem lastSome_cons {α β : Type} (f : α → Option β) (a : α) (l : List α) :
    lastSome f (a :: l) = (lastSome f l).or (f a) := by
  rw [lastSome]; cases lastSome f l <;> rfl

/-- the accumulator takes the new element on the right, as `cstep` does -/
theorem append_filterMap_cons {α β : Type} (f : α → Option β) (xs : List β) (a : α) (l : List α) :
    xs ++ (a :: l).filterMap f = (f a).elim xs (fun b => xs ++ [b]) ++ l.filterMap f := by
  rw [List.filterMap_cons]
  cases f a with
  | none => rfl
  | some b => exact (List.append_assoc xs [b] _).symm

theorem filterMap_insert_none {α β : Type} (f : α → Option β) {a : α} (h : f a = none) (l1 l2 : List α) :
    (l1 ++ a :: l2).filterMap f = (l1 ++ l2).filterMap f := by
  rw [List.filterMap_append, List.filterMap_cons_none h, ← List.filterMap_append]

theorem lastSome_none {α β : Type} (f : α → Option β) (l : List α) (h : ∀ a ∈ l, f a = none) :
    lastSome f l = none := by
  rw [lastSome_eq_getLast?, List.filterMap_eq_nil_iff.2 h]; rfl

section
omit [NumOps ν]

theorem header_eq (d : Defaults ν) (doc : List (Line ν)) :
    header d doc = (splitHeader doc).map fun p => (p.1.foldl hstep d, p.2) := by
  induction doc generalizing d with
  | nil => rfl
  | cons l doc ih =>
    by_cases hl : l = .beginIons
    · subst hl; rfl
    · -- `header.eq_3`, `splitHeader.eq_3` (and `qstep.eq_2`, `blocksAux.eq_3` below): the defining equation for a
      -- line that is not the delimiter
      rw [header.eq_3 _ _ _ hl, splitHeader.eq_3 _ _ hl, ih, Option.map_map]; rfl

theorem foldl_hstep (d : Defaults ν) (h : List (Line ν)) :
    h.foldl hstep d =
      { tol := (lastSome Line.tol? h).orElse fun _ => d.tol,
        tolu := (lastSome Line.tolu? h).orElse fun _ => d.tolu,
        charges := (lastSome Line.charge? h).orElse fun _ => d.charges } := by
  induction h generalizing d with
  | nil => rfl
  | cons l h ih =>
    simp only [List.foldl_cons, ih, lastSome_cons, Option.orElse_eq_or, Option.or_assoc]
    cases l with
    | tol v => cases v <;> rfl
    | _ => rfl

theorem defaultsSpec_eq (h : List (Line ν)) : h.foldl hstep {} = defaultsSpec h := by
  rw [foldl_hstep, defaultsSpec]
  cases lastSome Line.tol? h <;> cases lastSome Line.tolu? h <;> cases lastSome Line.charge? h <;> rfl

theorem splitHeader_append (h rest : List (Line ν)) (hh : ∀ l ∈ h, l ≠ .beginIons) :
    splitHeader (h ++ rest) = (splitHeader rest).map fun p => (h ++ p.1, p.2) := by
  induction h with
  | nil => rw [List.nil_append]; cases splitHeader rest <;> rfl
  | cons l h ih =>
    rw [List.cons_append, splitHeader.eq_3 _ _ (hh l List.mem_cons_self),
      ih fun l' hl' => hh l' (List.mem_cons_of_mem _ hl'), Option.map_map]
    rfl

theorem splitHeader_none (h : List (Line ν)) (hh : ∀ l ∈ h, l ≠ .beginIons) : splitHeader h = none := by
  have := splitHeader_append h [] hh
  rwa [List.append_nil] at this

theorem blocksAux_append (acc b rest : List (Line ν)) (hb : ∀ l ∈ b, l ≠ .endIons) :
    blocksAux acc (b ++ .endIons :: rest) = (acc.reverse ++ b) :: blocksAux [] rest := by
  induction b generalizing acc with
  | nil => rw [List.append_nil]; rfl
  | cons l b ih =>
    rw [List.cons_append, blocksAux.eq_3 _ _ _ (hb l List.mem_cons_self),
      ih _ fun l' hl' => hb l' (List.mem_cons_of_mem _ hl'), List.reverse_cons, List.append_assoc]
    rfl

theorem blocksAux_flat (bs : List (List (Line ν))) (hb : ∀ b ∈ bs, ∀ l ∈ b, l ≠ .endIons) :
    blocksAux [] (bs.flatMap fun b => .beginIons :: b ++ [.endIons]) = bs.map (.beginIons :: ·) := by
  induction bs with
  | nil => rfl
  | cons b bs ih =>
    rw [List.flatMap_cons, List.append_assoc, List.singleton_append,
      blocksAux_append [] (.beginIons :: b) _ (List.forall_mem_cons.2 ⟨nofun, hb b List.mem_cons_self⟩),
      ih fun b' hb' => hb b' (List.mem_cons_of_mem _ hb')]
    rfl

theorem expand_ne_nil (w : Option (WUnit × ν × ν)) (cs : Option (List Nat)) (ps : List (ν × Option ν)) :
    expand w cs ps ≠ [] ↔ ps ≠ [] ∧ cs ≠ some [] := by
  cases ps with
  | nil => simp [expand]
  | cons p ps =>
    cases cs with
    | none => simp [expand]
    | some l => cases l <;> simp [expand]

end

theorem cstep_eq (c : Cur ν) (l : Line ν) :
    cstep c l =
      { id := l.title?.getD c.id,
        precs := l.prec?.elim c.precs fun p => c.precs ++ [p],
        tol := l.tol?.or c.tol,
        tolu := l.tolu?.or c.tolu,
        charges := l.charge?.or c.charges,
        rt := (l.rt?.map NumOps.div60).or c.rt,
        mzs := l.peakMz?.elim c.mzs fun m => c.mzs ++ [m],
        ints := l.peakInt?.elim c.ints fun i => c.ints ++ [i] } := by
  cases l with
  | peak m i =>
    cases m with
    | ok m => cases i <;> rfl
    | _ => rfl
  | pepmass m i => cases m <;> rfl
  | tol v => cases v <;> rfl
  | rt v => cases v <;> rfl
  | _ => rfl

theorem foldl_cstep (c : Cur ν) (b : List (Line ν)) :
    b.foldl cstep c =
      { id := (lastSome Line.title? b).getD c.id,
        precs := c.precs ++ b.filterMap Line.prec?,
        tol := (lastSome Line.tol? b).orElse fun _ => c.tol,
        tolu := (lastSome Line.tolu? b).orElse fun _ => c.tolu,
        charges := (lastSome Line.charge? b).orElse fun _ => c.charges,
        rt := ((lastSome Line.rt? b).map NumOps.div60).orElse fun _ => c.rt,
        mzs := c.mzs ++ b.filterMap Line.peakMz?,
        ints := c.ints ++ b.filterMap Line.peakInt? } := by
  induction b generalizing c with
  | nil => simp only [List.foldl_nil, List.filterMap_nil, List.append_nil]; rfl
  | cons l b ih =>
    -- both sides become "`b`'s part, then what `l` alone does to `c`"
    simp only [List.foldl_cons, ih, cstep_eq, lastSome_cons, Option.orElse_eq_or, Option.or_assoc, Option.map_or,
      Option.getD_or, append_filterMap_cons]

theorem build_foldl_cstep (d : Defaults ν) (b : List (Line ν)) :
    build (b.foldl cstep (initCur d)) = denoteSpec d b := by
  rw [foldl_cstep]
  cases h : lastSome Line.rt? b <;> simp only [build, denoteSpec, h] <;> rfl

theorem foldl_qstep (rest acc : List (Line ν)) (s : QState ν)
    (hc : s.cur = acc.reverse.foldl cstep (initCur s.d)) :
    (rest.foldl qstep s).out = ((blocksAux acc rest).filterMap (denoteSpec s.d)).reverse ++ s.out := by
  induction rest generalizing acc s with
  | nil => rfl
  | cons l rest ih =>
    by_cases hl : l = .endIons
    · subst hl
      have hb : build s.cur = denoteSpec s.d acc.reverse := by rw [hc, build_foldl_cstep]
      rw [List.foldl_cons, ih [] (qstep s .endIons) rfl]
      show _ ++ pushOpt (build s.cur) s.out = ((acc.reverse :: blocksAux [] rest).filterMap _).reverse ++ _
      rw [hb, List.filterMap_cons]
      cases denoteSpec s.d acc.reverse with
      | none => rfl
      | some sp => rw [List.reverse_cons, List.append_assoc]; rfl
    · rw [List.foldl_cons, qstep.eq_2 _ _ hl, blocksAux.eq_3 _ _ _ hl]
      exact ih (l :: acc) _ (by rw [List.reverse_cons, List.foldl_append, ← hc]; rfl)

/-- a document written as the format intends: header lines, then blocks `BEGIN IONS … END IONS` -/
def render (h : List (Line ν)) (blocks : List (List (Line ν))) : List (Line ν) :=
  h ++ blocks.flatMap fun b => .beginIons :: b ++ [.endIons]

/-- a `BEGIN IONS` line anywhere inside a block means nothing -/
theorem denoteSpec_begin_inside (d : Defaults ν) (b1 b2 : List (Line ν)) :
    denoteSpec d (b1 ++ .beginIons :: b2) = denoteSpec d (b1 ++ b2) := by
  unfold denoteSpec
  simp only [lastSome_eq_getLast?]
  rw [filterMap_insert_none Line.title? rfl, filterMap_insert_none Line.tol? rfl, filterMap_insert_none Line.tolu? rfl,
    filterMap_insert_none Line.charge? rfl, filterMap_insert_none Line.rt? rfl, filterMap_insert_none Line.prec? rfl,
    filterMap_insert_none Line.peakMz? rfl, filterMap_insert_none Line.peakInt? rfl]

theorem denoteSpec_begin (d : Defaults ν) (b : List (Line ν)) :
    denoteSpec d (.beginIons :: b) = denoteSpec d b :=
  denoteSpec_begin_inside d [] b

theorem filterMap_denoteSpec_begin (d : Defaults ν) (bs : List (List (Line ν))) :
    (bs.map (.beginIons :: ·)).filterMap (denoteSpec d) = bs.filterMap (denoteSpec d) := by
  induction bs with
  | nil => rfl
  | cons b bs ih => rw [List.map_cons, List.filterMap_cons, List.filterMap_cons, ih, denoteSpec_begin]

/-- numbers for the non-vacuity examples: ℕ with `/ 60`, identity `abs`/`neg` -/
instance : NumOps Nat where
  zero := 0
  one := 1
  sum0 := 0
  add := (· + ·)
  div60 := (· / 60)
  abs := id
  neg := id

/-- the `fixed: C17 286831c` witness: header `CHARGE=2+ and 3+`, blocks with and without their own CHARGE -/
def exH : List (Line Nat) := [.other, .charge [2, 3], .tol (.ok 10), .tolu "ppm"]
def exA : List (Line Nat) :=
  [.title "a", .pepmass (.ok 500) .absent, .rt (.ok 120), .peak (.ok 100) (.ok 7), .peak (.ok 200) .absent]
def exB : List (Line Nat) := [.title "b", .charge [4], .tolu "Da", .pepmass (.ok 600) (.ok 9), .peak (.ok 100) (.ok 1)]
def exC : List (Line Nat) := [.title "c", .pepmass (.ok 700) .absent, .peak (.ok 100) (.ok 1)]
def exD : List (Line Nat) := [.title "no pepmass", .peak (.ok 100) (.ok 1)]
def exDoc : List (Line Nat) := render exH [exA, exB, exC, exD]
def spA : Spectrum Nat :=
  { id := "a", rt := 2, tic := 8, mzs := [100, 200], ints := [7, 1],
    precs := [⟨500, none, some 2, some (.ppm, 10, 10)⟩, ⟨500, none, some 3, some (.ppm, 10, 10)⟩] }
def spB : Spectrum Nat :=
  { id := "b", rt := 0, tic := 1, mzs := [100], ints := [1], precs := [⟨600, some 9, some 4, some (.da, 10, 10)⟩] }
def spC : Spectrum Nat :=
  { id := "c", rt := 0, tic := 1, mzs := [100], ints := [1],
    precs := [⟨700, none, some 2, some (.ppm, 10, 10)⟩, ⟨700, none, some 3, some (.ppm, 10, 10)⟩] }
/-- a document nobody would write: field lines and a peak before/between blocks, a nested `BEGIN IONS`, a
missing `END IONS` at the end -/
def exLoose : List (Line Nat) :=
  [.title "ignored", .tolu "Da", .peak (.ok 1) (.ok 1), .beginIons, .title "x", .beginIons, .pepmass (.ok 5) .absent,
   .peak (.ok 100) .absent, .endIons, .tol (.ok 3), .beginIons, .title "y", .pepmass .absent .absent,
   .peak (.ok 7) (.ok 7), .endIons, .beginIons, .title "z", .pepmass (.ok 1) .absent, .peak (.ok 1) (.ok 1)]

/-- **C17.parse_eq_spec** — for EVERY document (any lines in any order: well-formed, truncated, with
nested or missing BEGIN/END IONS, …) the reader's state machine returns exactly the spectra the
document denotes block by block: header = lines before the first `BEGIN IONS`, blocks = runs closed by
`END IONS`, each block read on its own, field by field, under the header's defaults. -/
theorem parse_eq_spec (doc : List (Line ν)) : parseLines doc = specSpectra doc := by
  unfold parseLines specSpectra
  rw [header_eq]
  cases splitHeader doc with
  | none => rfl
  | some p =>
    simp only [Option.map_some, defaultsSpec_eq, blocksOf]
    rw [foldl_qstep p.2 [] _ rfl, List.append_nil, List.reverse_reverse]

example : parseLines exLoose =
    [ { id := "x", rt := 0, tic := 1, mzs := [100], ints := [1], precs := [⟨5, none, none, none⟩] },
      { id := "y", rt := 0, tic := 7, mzs := [7], ints := [7], precs := [⟨0, none, none, some (.da, 3, 3)⟩] } ] ∧
    specSpectra exLoose = parseLines exLoose := by decide +kernel

/-- **C17.block_denotation** — on a document written as header + `BEGIN IONS … END IONS` blocks, the
reader returns, in order, exactly the blocks' own denotations under the header's defaults: every emitted
spectrum depends only on (header, its own block); blocks whose denotation is `none` (no title / no
accepted PEPMASS / no charge state / no peak / a peak whose intensity column is rejected) emit nothing. -/
theorem block_denotation (h : List (Line ν)) (blocks : List (List (Line ν)))
    (hh : ∀ l ∈ h, l ≠ .beginIons) (hb : ∀ b ∈ blocks, ∀ l ∈ b, l ≠ .endIons) :
    parseLines (render h blocks) = blocks.filterMap (denoteSpec (defaultsSpec h)) := by
  rw [parse_eq_spec]
  unfold specSpectra render
  rw [splitHeader_append h _ hh]
  cases blocks with
  | nil => rfl
  | cons b bs =>
    -- the first `BEGIN IONS` ends the header; those of the later blocks stay in front of their blocks
    show (blocksAux [] (b ++ [.endIons] ++ bs.flatMap _)).filterMap (denoteSpec (defaultsSpec (h ++ []))) = _
    rw [List.append_nil, List.append_assoc, List.singleton_append, blocksAux_append [] b _ (hb b List.mem_cons_self),
      blocksAux_flat bs fun b' hb' => hb b' (List.mem_cons_of_mem _ hb'), List.filterMap_cons, List.filterMap_cons,
      filterMap_denoteSpec_begin]
    rfl

example : (∀ l ∈ exH, l ≠ Line.beginIons) ∧ (∀ b ∈ [exA, exB, exC, exD], ∀ l ∈ b, l ≠ Line.endIons) ∧
    parseLines (render exH [exA, exB, exC, exD]) = [spA, spB, spC] ∧
    [exA, exB, exC, exD].map (denoteSpec (defaultsSpec exH)) = [some spA, some spB, some spC, none] := by decide +kernel

/-- **C17.blocks_append** — the spectra of a document are the spectra of its first blocks followed by the
spectra of its remaining blocks, each part read as a document of its own under the same header. -/
theorem blocks_append (h : List (Line ν)) (bs1 bs2 : List (List (Line ν)))
    (hh : ∀ l ∈ h, l ≠ .beginIons) (hb : ∀ b ∈ bs1 ++ bs2, ∀ l ∈ b, l ≠ .endIons) :
    parseLines (render h (bs1 ++ bs2)) = parseLines (render h bs1) ++ parseLines (render h bs2) := by
  rw [block_denotation h _ hh hb, block_denotation h bs1 hh fun b hb' => hb b (List.mem_append_left _ hb'),
    block_denotation h bs2 hh fun b hb' => hb b (List.mem_append_right _ hb'), List.filterMap_append]

example : parseLines (render exH ([exA, exB] ++ [exC, exD])) = [spA, spB] ++ [spC] ∧
    parseLines (render exH [exA, exB]) = [spA, spB] ∧ parseLines (render exH [exC, exD]) = [spC] := by decide +kernel

/-- **C17.permute_blocks** — permuting the blocks of a document permutes the returned spectra in the same
way (in particular the multiset of spectra does not depend on block order). -/
theorem permute_blocks (h : List (Line ν)) (blocks blocks' : List (List (Line ν)))
    (hh : ∀ l ∈ h, l ≠ .beginIons) (hb : ∀ b ∈ blocks, ∀ l ∈ b, l ≠ .endIons) (hp : blocks.Perm blocks') :
    (parseLines (render h blocks)).Perm (parseLines (render h blocks')) := by
  rw [block_denotation h blocks hh hb, block_denotation h blocks' hh fun b hb' => hb b (hp.mem_iff.2 hb')]
  exact hp.filterMap _

example : [exA, exB, exC, exD].Perm [exC, exD, exB, exA] ∧
    parseLines (render exH [exC, exD, exB, exA]) = [spC, spB, spA] ∧
    parseLines (render exH [exA, exB, exC, exD]) = [spA, spB, spC] := by decide +kernel

def NoOverride (b : List (Line ν)) : Prop :=
  ∀ l ∈ b, l.charge? = none ∧ l.tol? = none ∧ l.tolu? = none

theorem filterMap_singleton {α β : Type} (f : α → Option β) (a : α) : [a].filterMap f = (f a).toList := by
  rw [List.filterMap_cons]; cases f a <;> rfl

/-- **C17.header_defaults** — a block at ANY position (`pre = []`: the first block) that has no CHARGE / TOL /
TOLU line of its own is assembled with the header's values (the last such lines before the first
`BEGIN IONS`), and the blocks before and after it yield what they yield on their own. -/
theorem header_defaults (h : List (Line ν)) (pre post : List (List (Line ν))) (b : List (Line ν))
    (hh : ∀ l ∈ h, l ≠ .beginIons) (hb : ∀ b' ∈ pre ++ b :: post, ∀ l ∈ b', l ≠ .endIons)
    (hno : NoOverride b) :
    parseLines (render h (pre ++ b :: post)) =
      parseLines (render h pre) ++
      (assemble ((lastSome Line.title? b).getD "") (b.filterMap Line.prec?)
        (lastSome Line.tol? h) (lastSome Line.tolu? h) (lastSome Line.charge? h)
        ((lastSome Line.rt? b).map NumOps.div60) (b.filterMap Line.peakMz?) (b.filterMap Line.peakInt?)).toList ++
      parseLines (render h post) := by
  rw [List.append_cons] at hb ⊢
  rw [blocks_append h _ post hh hb, blocks_append h pre [b] hh fun b' hb' => hb b' (List.mem_append_left _ hb'),
    block_denotation h [b] hh fun b' hb' => hb b' (List.mem_append_left _ (List.mem_append_right _ hb')),
    filterMap_singleton, denoteSpec, lastSome_none _ b fun l hl => (hno l hl).1,
    lastSome_none _ b fun l hl => (hno l hl).2.1, lastSome_none _ b fun l hl => (hno l hl).2.2]
  rfl

/-- the old defect (fixed by 286831c): the FIRST block (`pre = []`) gets the header's `CHARGE=2+ and 3+`, TOL 10 ppm -/
example : NoOverride exA ∧ (parseLines (render exH ([] ++ exA :: [exB]))).map (·.precs.map fun p => (p.charge, p.window)) =
    [[(some 2, some (.ppm, 10, 10)), (some 3, some (.ppm, 10, 10))], [(some 4, some (.da, 10, 10))]] := by
  unfold NoOverride
  decide +kernel

/-- **C17.override_no_leak** — whatever a block contains (its own CHARGE / TOL / TOLU, title, PEPMASS lines,
peaks; accepted or rejected), the blocks after it yield exactly what they yield in a document that
consists of the header and those later blocks only: nothing of a block reaches later blocks. -/
theorem override_no_leak (h : List (Line ν)) (pre post : List (List (Line ν))) (b : List (Line ν))
    (hh : ∀ l ∈ h, l ≠ .beginIons) (hb : ∀ b' ∈ pre ++ b :: post, ∀ l ∈ b', l ≠ .endIons) :
    parseLines (render h (pre ++ b :: post)) =
      parseLines (render h (pre ++ [b])) ++ parseLines (render h post) := by
  rw [List.append_cons] at hb ⊢
  exact blocks_append h _ _ hh hb

/-- block `exB` has its own `CHARGE=4+` and `TOLU=Da`; block `exC` after it still gets the header's 2+/3+, ppm -/
example : parseLines (render exH ([exA] ++ exB :: [exC])) = parseLines (render exH ([exA] ++ [exB])) ++ [spC] ∧
    parseLines (render exH [exC]) = [spC] ∧ ¬ NoOverride exB := by
  unfold NoOverride
  decide +kernel

/-- **C17.total** — the model is a total function (by its type: every document has a result), and a document
without any `BEGIN IONS` line — empty, truncated before the first block, or not MGF at all — yields the
empty list. -/
theorem total (doc : List (Line ν)) (hno : ∀ l ∈ doc, l ≠ .beginIons) : parseLines doc = [] := by
  rw [parse_eq_spec]
  unfold specSpectra
  rw [splitHeader_none doc hno]

/-- the old defect (fixed by 94084ba): `"TITLE=a\n"` made the reader panic -/
example : (∀ l ∈ ([.title "a", .peak (.ok 1) (.ok 1), .endIons] : List (Line Nat)), l ≠ Line.beginIons) ∧
    parseLines ([.title "a", .peak (.ok 1) (.ok 1), .endIons] : List (Line Nat)) = [] ∧
    parseLines ([] : List (Line Nat)) = [] := by decide +kernel

/-- **C17.emitted_iff** — a block yields a spectrum iff it has a non-empty title, at least one accepted
PEPMASS line, a charge list that is not explicitly empty (absent is fine), at least one peak, and as
many intensities as m/z values (i.e. no peak line whose intensity column is rejected). -/
theorem emitted_iff (d : Defaults ν) (b : List (Line ν)) :
    (denoteSpec d b).isSome ↔
      (lastSome Line.title? b).getD "" ≠ "" ∧
      b.filterMap Line.prec? ≠ [] ∧
      ((lastSome Line.charge? b).orElse fun _ => d.charges) ≠ some [] ∧
      b.filterMap Line.peakMz? ≠ [] ∧
      (b.filterMap Line.peakMz?).length = (b.filterMap Line.peakInt?).length := by
  unfold denoteSpec assemble
  simp only [expand_ne_nil, and_assoc]
  split
  next hc => exact iff_of_true rfl hc
  next hc => exact iff_of_false nofun hc

example : (denoteSpec (defaultsSpec exH) exA).isSome = true ∧ (denoteSpec (defaultsSpec exH) exD).isSome = false ∧
    -- `CHARGE=` without a digit: explicitly empty charge list, nothing is emitted
    (denoteSpec (defaultsSpec exH) (exA ++ [.charge []])).isSome = false ∧
    -- a rejected intensity column: arrays differ in length
    (denoteSpec (defaultsSpec exH) (exA ++ [.peak (.ok 300) .bad])).isSome = false ∧
    -- an empty title
    (denoteSpec (defaultsSpec exH) (exA ++ [.title ""])).isSome = false := by decide +kernel

/-- **C17.peaks_same_length** — the two arrays can only differ in length through a peak line whose m/z
column parses and whose intensity column is present but rejected. -/
theorem peaks_same_length (b : List (Line ν)) (hclean : ∀ m, Line.peak (.ok m) .bad ∉ b) :
    (b.filterMap Line.peakMz?).length = (b.filterMap Line.peakInt?).length := by
  induction b with
  | nil => rfl
  | cons l b ih =>
    have ih' := ih fun m hm => hclean m (List.mem_cons_of_mem _ hm)
    cases l with
    | peak m i =>
      cases m with
      | ok m =>
        cases i with
        | bad => exact absurd List.mem_cons_self (hclean m)
        | _ => exact congrArg (· + 1) ih'
      | _ => exact ih'
    | _ => exact ih'

example : (∀ m, Line.peak (.ok m) .bad ∉ exA) ∧
    (exA.filterMap Line.peakMz?).length = 2 ∧
    ((exA ++ [Line.peak (.ok 300) .bad]).filterMap Line.peakMz?).length = 3 ∧
    ((exA ++ [Line.peak (.ok 300) .bad]).filterMap Line.peakInt?).length = 2 := by
  refine ⟨?_, by decide +kernel, by decide +kernel, by decide +kernel⟩
  intro m hm
  simp [exA] at hm

/-- **C17.emitted_fields** — what an emitted spectrum contains: the block's last title, its peak list in
order (intensity 1 where the column is missing), RTINSECONDS / 60 (0 without it), and the precursors:
every accepted PEPMASS line, once per charge state of the block's own CHARGE line or else the
header's, each carrying the isolation window ±|TOL| in the unit TOLU (own values first, else the header's). -/
theorem emitted_fields (d : Defaults ν) (b : List (Line ν)) (sp : Spectrum ν) (h : denoteSpec d b = some sp) :
    sp.id = (lastSome Line.title? b).getD "" ∧
    sp.mzs = b.filterMap Line.peakMz? ∧
    sp.ints = b.filterMap Line.peakInt? ∧
    sp.rt = ((lastSome Line.rt? b).map NumOps.div60).getD NumOps.zero ∧
    sp.precs = expand
      (window ((lastSome Line.tol? b).orElse fun _ => d.tol) ((lastSome Line.tolu? b).orElse fun _ => d.tolu))
      ((lastSome Line.charge? b).orElse fun _ => d.charges) (b.filterMap Line.prec?) := by
  unfold denoteSpec assemble at h
  simp only at h
  split at h
  · cases h; simp
  · cases h

example : denoteSpec (defaultsSpec exH) exB = some spB ∧ denoteSpec (defaultsSpec exH) exA = some spA := by decide +kernel

omit [NumOps ν] in
/-- **C17.precursor_per_charge** — one precursor per listed charge state, in the listed order, for each
PEPMASS line; a single charge-less precursor per PEPMASS line when no CHARGE applies. -/
theorem precursor_per_charge (w : Option (WUnit × ν × ν)) (cs : List Nat) (ps : List (ν × Option ν)) :
    expand w (some cs) ps = ps.flatMap (fun p => cs.map fun z => ⟨p.1, p.2, some z, w⟩) ∧
    expand w none ps = ps.map (fun p => ⟨p.1, p.2, none, w⟩) :=
  ⟨rfl, List.map_eq_flatMap.symm⟩

example : expand (ν := Nat) none (some [2, 3]) [(500, none), (600, some 9)] =
    [⟨500, none, some 2, none⟩, ⟨500, none, some 3, none⟩, ⟨600, some 9, some 2, none⟩, ⟨600, some 9, some 3, none⟩] ∧
    expand (ν := Nat) none none [(500, none)] = [⟨500, none, none, none⟩] := by decide +kernel

/-! ## behaviour on malformed input: recorded as it is, not required by the property text -/

/-- **C17.charge_without_digit_drops_block** — a CHARGE line without any ASCII digit (`CHARGE=`, `CHARGE=unknown`,
`CHARGE=Mr`) is the explicitly empty charge list `.charge []` (`classify_charge_no_digit`). (1) A block whose
last CHARGE line is such a line gets zero precursors and is dropped, whatever else it contains and whatever
the header says. (2) If the header's last CHARGE line is such a line, every block without a CHARGE line of its
own is dropped, (3) so a whole document under such a header yields only the blocks that override CHARGE. -/
theorem charge_without_digit_drops_block (d : Defaults ν) (b : List (Line ν)) (h : List (Line ν))
    (blocks : List (List (Line ν))) :
    (lastSome Line.charge? b = some [] → denoteSpec d b = none) ∧
    (lastSome Line.charge? b = none → d.charges = some [] → denoteSpec d b = none) ∧
    ((∀ l ∈ h, l ≠ .beginIons) → (∀ b ∈ blocks, ∀ l ∈ b, l ≠ .endIons) → lastSome Line.charge? h = some [] →
      parseLines (render h blocks) =
        (blocks.filter fun b => (lastSome Line.charge? b).isSome).filterMap (denoteSpec (defaultsSpec h))) := by
  have key : ∀ (d : Defaults ν) (b : List (Line ν)),
      ((lastSome Line.charge? b).orElse fun _ => d.charges) = some [] → denoteSpec d b = none :=
    fun d b hc => Option.not_isSome_iff_eq_none.1 fun h => ((emitted_iff d b).1 h).2.2.1 hc
  refine ⟨fun h1 => key d b (by rw [h1]; rfl), fun h1 h2 => key d b (by rw [h1]; exact h2), ?_⟩
  intro hh hb hc
  rw [block_denotation h blocks hh hb]
  clear hb
  induction blocks with
  | nil => rfl
  | cons b bs ih =>
    rw [List.filter_cons, List.filterMap_cons, ih]
    cases hown : lastSome Line.charge? b with
    | none => rw [key _ b (by rw [hown]; exact hc)]; rfl
    | some cs => rfl

example : denoteSpec (defaultsSpec exH) (exA ++ [.charge []]) = none ∧
    -- header `CHARGE=` : only the block with its own CHARGE line (exB) survives
    parseLines (render [.charge [2], .charge []] [exA, exB, exC]) =
      [{ spB with precs := [⟨600, some 9, some 4, none⟩] }] ∧
    parseLines (render [.charge [2]] [exA, exB, exC]) ≠ [{ spB with precs := [⟨600, some 9, some 4, none⟩] }] := by
  decide +kernel

/-- **C17.missing_end_merges_blocks** — `BEGIN IONS` is ignored after the first one, so when the `END IONS` between two
blocks `b1`, `b2` is missing, the document reads as if the two were ONE block `b1 ++ b2` (blocks before and
after are unaffected); the merged block has the later title (`b2`'s if it has one), the precursors of both
and the peaks of both, in order. -/
theorem missing_end_merges_blocks (h : List (Line ν)) (pre post : List (List (Line ν))) (b1 b2 : List (Line ν))
    (hh : ∀ l ∈ h, l ≠ .beginIons) (hb : ∀ b ∈ pre ++ (b1 ++ b2) :: post, ∀ l ∈ b, l ≠ .endIons) :
    parseLines (render h (pre ++ (b1 ++ .beginIons :: b2) :: post)) =
      parseLines (render h (pre ++ (b1 ++ b2) :: post)) ∧
    lastSome Line.title? (b1 ++ b2) = (lastSome Line.title? b2).orElse (fun _ => lastSome Line.title? b1) ∧
    (b1 ++ b2).filterMap Line.prec? = b1.filterMap Line.prec? ++ b2.filterMap Line.prec? ∧
    (b1 ++ b2).filterMap Line.peakMz? = b1.filterMap Line.peakMz? ++ b2.filterMap Line.peakMz? ∧
    (b1 ++ b2).filterMap Line.peakInt? = b1.filterMap Line.peakInt? ++ b2.filterMap Line.peakInt? := by
  refine ⟨?_, lastSome_append _ _ _, List.filterMap_append, List.filterMap_append, List.filterMap_append⟩
  have hb' : ∀ b ∈ pre ++ (b1 ++ .beginIons :: b2) :: post, ∀ l ∈ b, l ≠ Line.endIons := by
    simp only [List.forall_mem_append, List.forall_mem_cons] at hb ⊢
    exact ⟨hb.1, ⟨hb.2.1.1, nofun, hb.2.1.2⟩, hb.2.2⟩
  rw [block_denotation h _ hh hb', block_denotation h _ hh hb, List.filterMap_append, List.filterMap_append,
    List.filterMap_cons, List.filterMap_cons, denoteSpec_begin_inside]

/-- the corpus case `corpus/C17/observation-missing-end-ions-merges-blocks.req`: block `a` lost its `END IONS` -/
example :
    let a : List (Line Nat) := [.title "a", .pepmass (.ok 5) .absent, .peak (.ok 100) (.ok 1)]
    let b : List (Line Nat) := [.title "b", .pepmass (.ok 500) .absent, .peak (.ok 101) (.ok 2)]
    parseLines (render [] [a ++ .beginIons :: b]) =
      [{ id := "b", rt := 0, tic := 3, mzs := [100, 101], ints := [1, 2],
         precs := [⟨5, none, none, none⟩, ⟨500, none, none, none⟩] }] ∧
    (parseLines (render [] [a, b])).map (·.id) = ["a", "b"] := by
  decide +kernel

def joinLines (ls : List (List Char)) : List Char := ls.flatMap fun l => l ++ ['\n']

/-- lines that can be written into a `\n`-terminated text as they are -/
def CleanLines (ls : List (List Char)) : Prop :=
  (∀ l ∈ ls, ∀ c ∈ l, c ≠ '\n') ∧ (∀ l ∈ ls, l.getLast? ≠ some '\r')

omit [NumOps ν] in
/-- **C17.classifyText_join** — the reader sees a `\n`-joined text line by line: each line trimmed and classified
on its own. -/
theorem classifyText_join (pf : String → Option ν) (isNum : Char → Bool) (ls : List (List Char))
    (h : CleanLines ls) :
    classifyText pf isNum (joinLines ls) = ls.map fun l => classify pf isNum (trim l) := by
  unfold classifyText joinLines
  rw [rustLines_join ls h.1 h.2]

example : CleanLines ["TITLE=a".toList, " 100 5 ".toList] ∧
    classifyText (fun s => if s = "100" then some 100 else if s = "5" then some 5 else none) Char.isDigit
      (joinLines ["TITLE=a".toList, " 100 5 ".toList, "7 x".toList]) =
      [.title "a", .peak (.ok 100) (.ok 5), .peak .bad .bad] := by
  unfold CleanLines
  -- the kernel is slow at decoding a string literal; `String.toList_ofList` hands it the characters
  repeat rw [String.toList_ofList]
  decide +kernel

/-- **C17.text_parse_eq_spec** — for EVERY text (any characters: truncated, corrupted, no `BEGIN IONS`, …) the model
of `MgfReader::parse` returns the block-wise denotation of the text's classified lines; in particular it is
total and returns `[]` when no line is a `BEGIN IONS` line. -/
theorem text_parse_eq_spec (pf : String → Option ν) (isNum : Char → Bool) (text : List Char) :
    parseText pf isNum text = specSpectra (classifyText pf isNum text) ∧
    ((∀ l ∈ classifyText pf isNum text, l ≠ .beginIons) → parseText pf isNum text = []) :=
  ⟨parse_eq_spec _, total _⟩

example : parseText (ν := Nat) (fun _ => none) Char.isDigit "TITLE=a\n".toList = [] ∧
    parseText (ν := Nat) (fun _ => none) Char.isDigit [] = [] ∧
    parseText (ν := Nat) (fun _ => some 1) Char.isDigit "BEGIN IONS\nTITLE=a\nPEPMASS=1\n1 1\nEND IONS".toList ≠ [] := by
  repeat rw [String.toList_ofList]
  decide +kernel

theorem forall_mem_doc {α : Type} {P : α → Prop} {B E : α} (hBE : ∀ k ∈ [B, E], P k) {hdr : List α}
    {blocks : List (List α)} (h1 : ∀ l ∈ hdr, P l) (h2 : ∀ b ∈ blocks, ∀ l ∈ b, P l) :
    ∀ l ∈ hdr ++ blocks.flatMap fun b => B :: b ++ [E], P l :=
  List.forall_mem_append.2 ⟨h1, fun l hl =>
    let ⟨b, hbm, hlb⟩ := List.mem_flatMap.1 hl
    List.forall_mem_append.2 ⟨List.forall_mem_cons.2 ⟨hBE _ (.head _), h2 b hbm⟩,
      List.forall_mem_singleton.2 (hBE _ (.tail _ (.head _)))⟩ l hlb⟩

theorem map_doc {α β : Type} (c : α → β) (B E : α) (hdr : List α) (blocks : List (List α)) :
    (hdr ++ blocks.flatMap fun b => B :: b ++ [E]).map c =
      hdr.map c ++ (blocks.map (List.map c)).flatMap fun b => c B :: b ++ [c E] := by
  rw [List.map_append, List.map_flatMap, List.flatMap_map]
  simp only [List.map_cons, List.map_append, List.map_nil]

theorem begin_end_lines : ∀ k ∈ ["BEGIN IONS".toList, "END IONS".toList],
    trim k = k ∧ (∀ c ∈ k, c ≠ '\n') ∧ k.getLast? ≠ some '\r' := by
  repeat rw [String.toList_ofList]
  decide +kernel

/-- the classified lines of a document written as header lines + `BEGIN IONS` / body / `END IONS` blocks -/
theorem lines_block_denotation (pf : String → Option ν) (isNum : Char → Bool)
    (hk : KeywordInitialsNotNumeric isNum) (hdr : List (List Char)) (blocks : List (List (List Char)))
    (hh : ∀ l ∈ hdr, classify pf isNum (trim l) ≠ .beginIons)
    (hb : ∀ b ∈ blocks, ∀ l ∈ b, classify pf isNum (trim l) ≠ .endIons) :
    parseLines ((hdr ++ blocks.flatMap fun b => "BEGIN IONS".toList :: b ++ ["END IONS".toList]).map
        fun l => classify pf isNum (trim l)) =
      blocks.filterMap fun b =>
        denoteSpec (defaultsSpec (hdr.map fun l => classify pf isNum (trim l)))
          (b.map fun l => classify pf isNum (trim l)) := by
  have hB := classify_begin pf isNum hk []
  have hE := classify_end pf isNum hk []
  rw [List.append_nil, ← (begin_end_lines _ (.head _)).1] at hB
  rw [List.append_nil, ← (begin_end_lines _ (.tail _ (.head _))).1] at hE
  rw [map_doc, hB, hE]
  exact (block_denotation _ _ (List.forall_mem_map.2 hh)
    (List.forall_mem_map.2 fun b hbm => List.forall_mem_map.2 (hb b hbm))).trans (List.filterMap_map ..)

/-- **C17.text_block_denotation** — `block_denotation` for TEXT: a document written as header lines followed by
blocks `BEGIN IONS` / body lines / `END IONS`, one line per `\n`, is read as exactly the blocks' own
denotations under the header's defaults (what a single line means to the reader: `trim`, then
`classify`). `pf` = `str::parse::<f32>` and `isNum` = `char::is_numeric` are arbitrary, except that the
keyword initials are not numeric. -/
theorem text_block_denotation (pf : String → Option ν) (isNum : Char → Bool)
    (hk : KeywordInitialsNotNumeric isNum) (hdr : List (List Char)) (blocks : List (List (List Char)))
    (hc1 : CleanLines hdr) (hc2 : ∀ b ∈ blocks, CleanLines b)
    (hh : ∀ l ∈ hdr, classify pf isNum (trim l) ≠ .beginIons)
    (hb : ∀ b ∈ blocks, ∀ l ∈ b, classify pf isNum (trim l) ≠ .endIons) :
    parseText pf isNum
        (joinLines (hdr ++ blocks.flatMap fun b => "BEGIN IONS".toList :: b ++ ["END IONS".toList])) =
      blocks.filterMap fun b =>
        denoteSpec (defaultsSpec (hdr.map fun l => classify pf isNum (trim l)))
          (b.map fun l => classify pf isNum (trim l)) := by
  unfold parseText
  rw [classifyText_join pf isNum _
    ⟨forall_mem_doc (P := fun l => ∀ c ∈ l, c ≠ '\n') (fun k hk => (begin_end_lines k hk).2.1) hc1.1
      fun b hbm => (hc2 b hbm).1,
    forall_mem_doc (P := fun l => l.getLast? ≠ some '\r') (fun k hk => (begin_end_lines k hk).2.2) hc1.2
      fun b hbm => (hc2 b hbm).2⟩]
  exact lines_block_denotation pf isNum hk hdr blocks hh hb

example : KeywordInitialsNotNumeric Char.isDigit := by unfold KeywordInitialsNotNumeric; decide +kernel

/-- the `fixed: C17 286831c` witness as text (`pf` knows three tokens; `is_numeric` restricted to ASCII) -/
example :
    let pf : String → Option Nat := fun s => if s = "500.5" then some 500 else if s = "100.5" then some 100 else
      if s = "2" then some 2 else none
    let text := joinLines (["CHARGE=2+ and 3+".toList] ++
      [["TITLE=a".toList, "PEPMASS=500.5".toList, "100.5 2".toList],
       ["TITLE=b".toList, "PEPMASS=500.5".toList, "100.5".toList]].flatMap
        fun b => "BEGIN IONS".toList :: b ++ ["END IONS".toList])
    (parseText pf Char.isDigit text).map (fun sp => (sp.id, sp.precs.map (·.charge), sp.mzs, sp.ints)) =
      [("a", [some 2, some 3], [100], [2]), ("b", [some 2, some 3], [100], [1])] := by
  repeat rw [String.toList_ofList]
  decide +kernel

def joinLinesCRLF (ls : List (List Char)) : List Char := ls.flatMap fun l => l ++ ['\r', '\n']

/-- **C17.text_block_denotation_crlf** — the same for `\r\n`-terminated lines. -/
theorem text_block_denotation_crlf (pf : String → Option ν) (isNum : Char → Bool)
    (hk : KeywordInitialsNotNumeric isNum) (hdr : List (List Char)) (blocks : List (List (List Char)))
    (hc1 : ∀ l ∈ hdr, ∀ c ∈ l, c ≠ '\n') (hc2 : ∀ b ∈ blocks, ∀ l ∈ b, ∀ c ∈ l, c ≠ '\n')
    (hh : ∀ l ∈ hdr, classify pf isNum (trim l) ≠ .beginIons)
    (hb : ∀ b ∈ blocks, ∀ l ∈ b, classify pf isNum (trim l) ≠ .endIons) :
    parseText pf isNum
        (joinLinesCRLF (hdr ++ blocks.flatMap fun b => "BEGIN IONS".toList :: b ++ ["END IONS".toList])) =
      blocks.filterMap fun b =>
        denoteSpec (defaultsSpec (hdr.map fun l => classify pf isNum (trim l)))
          (b.map fun l => classify pf isNum (trim l)) := by
  unfold parseText classifyText joinLinesCRLF
  rw [rustLines_join_crlf _ (forall_mem_doc (P := fun l => ∀ c ∈ l, c ≠ '\n')
    (fun k hk => (begin_end_lines k hk).2.1) hc1 hc2)]
  exact lines_block_denotation pf isNum hk hdr blocks hh hb

example :
    let pf : String → Option Nat := fun s => if s = "5" then some 5 else if s = "100" then some 100 else none
    (parseText pf Char.isDigit (joinLinesCRLF (["CHARGE=2+".toList] ++
      [["TITLE=a".toList, "PEPMASS=5".toList, "100".toList]].flatMap
        fun b => "BEGIN IONS".toList :: b ++ ["END IONS".toList]))).map
      (fun sp => (sp.id, sp.precs.map (·.charge), sp.mzs, sp.ints)) = [("a", [some 2], [100], [1])] := by
  repeat rw [String.toList_ofList]
  decide +kernel

/-- **C17.indentation_irrelevant** — white space around the lines (indentation, trailing blanks, also Unicode
spaces) does not change what the reader sees. Each entry is (left padding, line, right padding). -/
theorem indentation_irrelevant (pf : String → Option ν) (isNum : Char → Bool)
    (ls : List (List Char × List Char × List Char))
    (hpad : ∀ t ∈ ls, (∀ c ∈ t.1, isWs c = true) ∧ (∀ c ∈ t.2.2, isWs c = true))
    (hc1 : CleanLines (ls.map fun t => t.1 ++ t.2.1 ++ t.2.2)) (hc2 : CleanLines (ls.map fun t => t.2.1)) :
    parseText pf isNum (joinLines (ls.map fun t => t.1 ++ t.2.1 ++ t.2.2)) =
      parseText pf isNum (joinLines (ls.map fun t => t.2.1)) := by
  unfold parseText
  rw [classifyText_join pf isNum _ hc1, classifyText_join pf isNum _ hc2, List.map_map, List.map_map]
  exact congrArg parseLines (List.map_congr_left fun t ht =>
    congrArg (classify pf isNum) (trim_pad t.1 t.2.1 t.2.2 (hpad t ht).1 (hpad t ht).2))

example :
    let pf : String → Option Nat := fun s => if s = "5" then some 5 else if s = "100" then some 100 else none
    let ls : List (List Char × List Char × List Char) :=
      [("        ".toList, "BEGIN IONS".toList, []), ("\t".toList, "TITLE=a".toList, "  ".toList),
       ("\u00a0".toList, "PEPMASS=5".toList, []), ([], "100".toList, " ".toList), ("\u3000".toList, "END IONS".toList, [])]
    (∀ t ∈ ls, (∀ c ∈ t.1, isWs c = true) ∧ (∀ c ∈ t.2.2, isWs c = true)) ∧
    (parseText pf Char.isDigit (joinLines (ls.map fun t => t.1 ++ t.2.1 ++ t.2.2))).map (·.id) = ["a"] := by
  repeat rw [String.toList_ofList]
  decide +kernel

end Sage.C17
