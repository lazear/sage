import SageModel.Props.C08
import Mathlib.Algebra.BigOperators.Group.List.Basic

/-!
# C08 — the database against the FASTA records themselves

On a digest list sorted by the comparator of the code, every group of `group_digests` is the run of its
(position, decoy, sequence) class: reference = least digest, proteins = those of the class. From this: the
database stated against `contribs cfg t`, the per-(record, digest) contributions, without the intermediate vector;
that any arrangement of the digest list sorted by the code's comparator gives the same database (the model's
protein-name tie-break is immaterial); and that inside one build the identity determines the mass, reversed decoys
included.
-/

namespace Sage.C08

abbrev GKey := Nat × Bool × Str

def dk (d : PDigest) : GKey := (posRank d.pos, d.decoy, d.seq)
def gk (g : Group) : GKey := (posRank g.pos, g.decoy, g.seq)

theorem sameGroup_iff {d : PDigest} {g : Group} : sameGroup d g = true ↔ dk d = gk g := by
  simp only [sameGroup, dk, gk, Bool.and_eq_true, beq_iff_eq, Prod.mk.injEq, and_assoc, and_left_comm]

/-- `≤` in the comparator of `group_digests` -/
def Le5 (a b : PDigest) : Prop := cmpDigest5 a b ≠ .gt

def cmp3 : GKey → GKey → Ordering := thenPair cmpNat (thenPair cmpBool cmpStr)

theorem lawful_cmp3 : Lawful cmp3 := lawful_thenPair lawful_cmpNat (lawful_thenPair lawful_cmpBool lawful_cmpStr)

theorem le5_refl (d : PDigest) : Le5 d d := fun h => by
  rw [cmpDigest5_eq, lawful_cmp5.refl] at h; cases h

theorem le5_key3 {a b : PDigest} (h : Le5 a b) : cmp3 (dk a) (dk b) ≠ .gt := by
  intro e
  refine h ?_
  -- the group key is a prefix of the sort key, and `.gt` absorbs what is compared after it
  have := congrArg (·.then ((cmpBool a.semi b.semi).then (cmpNat a.mc b.mc))) e
  simp only [cmp3, thenPair, Ordering.then_assoc] at this
  exact this

theorem groupLoop_cover (ds : List PDigest) (cur : Group) (k : GKey) (h : k = gk cur ∨ ∃ d ∈ ds, dk d = k) :
    ∃ g ∈ groupLoop cur ds, gk g = k := by
  induction ds generalizing cur with
  | nil =>
    rcases h with rfl | ⟨d, hd, _⟩
    · exact ⟨cur, List.mem_singleton_self _, rfl⟩
    · cases hd
  | cons d ds ih =>
    rw [groupLoop]
    simp only [List.mem_cons, exists_eq_or_imp] at h
    split
    · rename_i hs
      exact ih _ (h.elim Or.inl fun h => h.imp (fun e => e.symm.trans (sameGroup_iff.1 hs)) id)
    · rcases h with rfl | h
      · exact ⟨_, List.mem_cons_self, rfl⟩
      · obtain ⟨g, hg, hk⟩ := ih (newGroup d [d.protein]) (h.imp Eq.symm id)
        exact ⟨g, List.mem_cons_of_mem _ hg, hk⟩

/-- `g` is the group of its (position, decoy, sequence) class in `ds`; `d0` stands for the reference digest, from
    which `group_digests` takes `semi_enzymatic` and `missed_cleavages`: a `Le5`-least one of the class -/
def RunOf (ds : List PDigest) (g : Group) : Prop :=
  ∃ d0 ∈ ds, dk d0 = gk g ∧ g.semi = d0.semi ∧ g.mc = d0.mc ∧
    (∀ d ∈ ds, dk d = gk g → Le5 d0 d) ∧ ∀ a, a ∈ g.proteins ↔ ∃ d ∈ ds, dk d = gk g ∧ d.protein = a

theorem RunOf.cons {ds : List PDigest} {g : Group} {d : PDigest} (hd : dk d ≠ gk g) (h : RunOf ds g) :
    RunOf (d :: ds) g := by
  obtain ⟨d0, hd0, b1, b2, b3, b4, b5⟩ := h
  refine ⟨d0, List.mem_cons_of_mem _ hd0, b1, b2, b3, List.forall_mem_cons.2 ⟨fun e => absurd e hd, b4⟩, fun a => ?_⟩
  rw [b5 a, List.exists_mem_cons_iff, and_iff_left_of_imp (fun h => absurd h hd), or_iff_right hd]

/-- The loop of `group_digests` on a sorted list, with `cur` the group being filled and `r` its reference digest:
    a group is either the continuation of `cur`, or it starts at the `Le5`-least digest of its (position, decoy,
    sequence) class and lists exactly that class. -/
theorem groupLoop_runs (ds : List PDigest) : ∀ (cur : Group) (r : PDigest),
    gk cur = dk r → cur.semi = r.semi → cur.mc = r.mc → (r :: ds).Pairwise Le5 →
    ∀ g ∈ groupLoop cur ds,
      (gk g = dk r ∧ g.semi = r.semi ∧ g.mc = r.mc ∧
        ∀ a, a ∈ g.proteins ↔ a ∈ cur.proteins ∨ ∃ d ∈ ds, dk d = dk r ∧ d.protein = a) ∨
      (gk g ≠ dk r ∧ ∃ d0 ∈ ds, dk d0 = gk g ∧ g.semi = d0.semi ∧ g.mc = d0.mc ∧
        (∀ d ∈ ds, dk d = gk g → Le5 d0 d) ∧
        ∀ a, a ∈ g.proteins ↔ ∃ d ∈ ds, dk d = gk g ∧ d.protein = a) := by
  induction ds with
  | nil =>
    intro cur r h1 h2 h3 _ g hg
    rw [List.mem_singleton.1 hg]
    exact Or.inl ⟨h1, h2, h3, fun a => (or_iff_left fun ⟨_, hd, _⟩ => List.not_mem_nil hd).symm⟩
  | cons d ds ih =>
    intro cur r h1 h2 h3 hp g hg
    have hrds : (r :: ds).Pairwise Le5 := hp.sublist (.cons_cons r (List.sublist_cons_self d ds))
    rw [groupLoop] at hg
    split at hg
    · rename_i hs
      have hk : dk d = dk r := (sameGroup_iff.1 hs).trans h1
      refine (ih { cur with proteins := cur.proteins ++ [d.protein] } r h1 h2 h3 hrds g hg).imp
        (fun ⟨a1, a2, a3, a4⟩ => ⟨a1, a2, a3, fun a => ?_⟩) fun ⟨a1, hB⟩ => ⟨a1, RunOf.cons (hk ▸ Ne.symm a1) hB⟩
      rw [a4 a, List.exists_mem_cons_iff, List.mem_append, List.mem_singleton, or_assoc, and_iff_right hk,
        eq_comm (a := a)]
    · rename_i hs
      -- `r`'s class ends here: everything from `d` on is strictly above it in the group key
      have hlt : cmp3 (dk r) (dk d) = .lt :=
        lawful_cmp3.lt_of_le_of_ne (le5_key3 (List.rel_of_pairwise_cons hp List.mem_cons_self))
          fun e => hs (sameGroup_iff.2 (e.symm.trans h1.symm))
      have hd : ∀ d' ∈ d :: ds, Le5 d d' :=
        List.forall_mem_cons.2 ⟨le5_refl d, fun _ => List.rel_of_pairwise_cons hp.of_cons⟩
      have F : ∀ d' ∈ d :: ds, dk d' ≠ dk r := fun d' hd' e =>
        lawful_cmp3.ne_of_lt (lawful_cmp3.lt_of_lt_of_le hlt (le5_key3 (hd d' hd'))) e.symm
      rcases List.mem_cons.1 hg with rfl | hg
      · exact Or.inl ⟨h1, h2, h3, fun a => mem_sortStr.trans
          ⟨Or.inl, fun h => h.elim id fun ⟨d', hd', e, _⟩ => absurd e (F d' hd')⟩⟩
      · right
        rcases ih (newGroup d [d.protein]) d rfl rfl rfl hp.of_cons g hg with ⟨a1, a2, a3, a4⟩ | ⟨a1, hB⟩
        · refine ⟨a1 ▸ F d List.mem_cons_self, d, List.mem_cons_self, a1.symm, a2, a3, fun d' hd' _ => hd d' hd',
            fun a => ?_⟩
          rw [a4 a, a1, List.exists_mem_cons_iff, and_iff_right rfl]
          exact or_congr_left (List.mem_singleton.trans eq_comm)
        · obtain ⟨d0, hd0, b1, _⟩ := id hB
          exact ⟨b1 ▸ F d0 (List.mem_cons_of_mem _ hd0), RunOf.cons (Ne.symm a1) hB⟩

/-- `group_digests` on an already arranged (sorted) digest list -/
def groupsOf : List PDigest → Option (List Group)
  | [] => some []
  | d :: rest => some (groupLoop (newGroup d []) (d :: rest))

theorem groupDigests_eq (ds : List PDigest) : groupDigests ds = groupsOf (sortDigests ds) := by
  unfold groupDigests groupsOf; cases sortDigests ds <;> rfl

theorem exists_groupsOf (sd : List PDigest) : ∃ gs, groupsOf sd = some gs := by
  cases sd <;> exact ⟨_, rfl⟩

theorem groupsOf_runs {sd : List PDigest} {gs : List Group} (h : groupsOf sd = some gs) (hs : sd.Pairwise Le5) :
    (∀ g ∈ gs, RunOf sd g) ∧ ∀ d ∈ sd, ∃ g ∈ gs, dk d = gk g := by
  cases sd with
  | nil => cases h; exact ⟨fun _ hg => (nomatch hg), fun _ hd => (nomatch hd)⟩
  | cons d rest =>
    cases h
    have hp : (d :: d :: rest).Pairwise Le5 :=
      List.pairwise_cons.2 ⟨List.forall_mem_cons.2 ⟨le5_refl d, (List.pairwise_cons.1 hs).1⟩, hs⟩
    refine ⟨fun g hg => ?_, fun d' hd' => ?_⟩
    · rcases groupLoop_runs (d :: rest) (newGroup d []) d rfl rfl rfl hp g hg with ⟨a1, a2, a3, a4⟩ | ⟨_, hB⟩
      · refine ⟨d, List.mem_cons_self, a1.symm, a2, a3, fun d' hd' _ => (List.pairwise_cons.1 hp).1 d' hd', fun a => ?_⟩
        rw [a4 a, a1]
        exact or_iff_right (List.not_mem_nil)
      · exact hB
    · obtain ⟨g, hg, hk⟩ := groupLoop_cover (d :: rest) (newGroup d []) _ (Or.inr ⟨d', hd', rfl⟩)
      exact ⟨g, hg, hk.symm⟩

/-- "All proteins containing it", at the level of `group_digests`: every group has the (position, decoy, sequence)
of some digest, every protein a group lists is the protein of a digest with the group's key, and every digest is
listed by a group with its key. -/
theorem groups_exact (ds : List PDigest) (gs : List Group) (h : groupDigests ds = some gs) :
    (∀ g ∈ gs, (∃ d ∈ ds, dk d = gk g) ∧ ∀ a ∈ g.proteins, ∃ d ∈ ds, dk d = gk g ∧ d.protein = a) ∧
    (∀ d ∈ ds, ∃ g ∈ gs, dk d = gk g ∧ d.protein ∈ g.proteins) := by
  rw [groupDigests_eq] at h
  obtain ⟨runs, cover⟩ := groupsOf_runs h (sortDigests_sorted ds)
  have hm : ∀ {x}, x ∈ sortDigests ds ↔ x ∈ ds := List.mem_mergeSort
  refine ⟨fun g hg => ?_, fun d hd => ?_⟩
  · obtain ⟨d0, hd0, hk, -, -, -, hpr⟩ := runs g hg
    exact ⟨⟨d0, hm.1 hd0, hk⟩, fun a ha => let ⟨d, hd, h⟩ := (hpr a).1 ha; ⟨d, hm.1 hd, h⟩⟩
  · obtain ⟨g, hg, hk⟩ := cover d (hm.2 hd)
    obtain ⟨-, -, -, -, -, -, hpr⟩ := runs g hg
    exact ⟨g, hg, hk, (hpr _).2 ⟨d, hm.2 hd, hk, rfl⟩⟩

/-- non-vacuity: the `Ex` FASTA has four groups (GGK occurs in P1 and in P2, at different positions: two groups) -/
example : ∃ gs, groupDigests (fastaDigest Ex.par [114, 101, 118, 95] true Ex.fasta) = some gs := by
  rw [groupDigests_eq]
  exact exists_groupsOf _

section skeleton
variable {α : Type} [Add α] [OfNat α 0] [BEq α] [LE α] [DecidableLE α]

/-- `Peptide::reverse` on the part `apply` works on -/
def revCore (c : C06.Peptide α) : C06.Peptide α :=
  { c with sequence := revInner (c.sequence.length - 1) c.sequence, mods := revInner (c.sequence.length - 1) c.mods }

/-- what `Parameters::digest` derives from the (position, sequence, decoy flag) of a group alone -/
def skeleton (cfg : Cfg α) (T : List Str) (pos : C05.Position) (seq : Str) (decoy : Bool) :
    List (C06.Peptide α × Bool) :=
  let forms := C06.dbForms cfg.h2o cfg.table (toPos6 pos) seq cfg.vars cfg.statics cfg.maxVar cfg.lo cfg.hi
  let peps := forms.map fun f => (f, decoy)
  let both := if cfg.gen then peps.flatMap (fun p => [(revCore p.1, !p.2), p]) else peps
  both.filter fun p => !p.2 || !T.contains p.1.sequence

def dress (g : Group) (x : C06.Peptide α × Bool) : DbPep α :=
  { decoy := x.2, core := x.1, mc := g.mc, semi := g.semi, proteins := g.proteins }

theorem groupPeptides_eq (cfg : Cfg α) (T : List Str) (g : Group) :
    groupPeptides cfg T g = (skeleton cfg T g.pos g.seq g.decoy).map (dress g) := by
  unfold groupPeptides skeleton
  refine (congrArg (List.filter _) ?_).trans List.filter_map
  split
  · rw [List.flatMap_map, List.flatMap_map, List.map_flatMap]
    rfl
  · rw [List.map_map]
    rfl

theorem mem_groupPeptides {cfg : Cfg α} {T : List Str} {g : Group} {p : DbPep α} :
    p ∈ groupPeptides cfg T g ↔ ∃ x ∈ skeleton cfg T g.pos g.seq g.decoy, dress g x = p := by
  rw [groupPeptides_eq, List.mem_map]

theorem gkey_inj {p p' : C05.Position} {b b' : Bool} {s s' : Str} (h : (posRank p, b, s) = (posRank p', b', s')) :
    p = p' ∧ b = b' ∧ s = s' := by
  rw [Prod.mk.injEq, Prod.mk.injEq] at h
  exact ⟨posRank_inj h.1, h.2⟩

theorem mem_targetInserts {gs : List Group} {y : Str} :
    y ∈ targetInserts gs ↔ ∃ g ∈ gs, g.decoy = false ∧ g.seq = y := by
  simp only [targetInserts, List.mem_map, List.mem_filter, Bool.not_eq_eq_eq_not, Bool.not_true, and_assoc]

theorem targets_agree {ds : List PDigest} {gs : List Group} (h : groupDigests ds = some gs) (y : Str) :
    y ∈ targetSet (targetInserts gs) ↔ y ∈ targetSeqs ds := by
  obtain ⟨g1, g2⟩ := groups_exact ds gs h
  rw [mem_targetSet, mem_targetInserts]
  simp only [targetSeqs, List.mem_map, List.mem_filter, Bool.not_eq_eq_eq_not, Bool.not_true, and_assoc]
  constructor
  · rintro ⟨g, hg, hd, rfl⟩
    obtain ⟨d, hd', hk⟩ := (g1 g hg).1
    exact ⟨d, hd', (gkey_inj hk).2.1.trans hd, (gkey_inj hk).2.2⟩
  · rintro ⟨d, hd, hdec, rfl⟩
    obtain ⟨g, hg, hk, _⟩ := g2 d hd
    exact ⟨g, hg, (gkey_inj hk).2.1.symm.trans hdec, (gkey_inj hk).2.2.symm⟩

theorem digestPeptides_contribs (cfg : Cfg α) (t : List (C05.Seq × C05.Seq)) {gs : List Group}
    (h : groupDigests (fastaDigest cfg.par cfg.tag cfg.gen t) = some gs) :
    (∀ p ∈ digestPeptides cfg gs (targetInserts gs),
      (∃ c ∈ contribs cfg t, c.core = p.core ∧ c.decoy = p.decoy) ∧
      ∀ a ∈ p.proteins, ∃ c ∈ contribs cfg t, c.core = p.core ∧ c.decoy = p.decoy ∧ a ∈ c.proteins) ∧
    (∀ c ∈ contribs cfg t, ∃ p ∈ digestPeptides cfg gs (targetInserts gs),
      p.core = c.core ∧ p.decoy = c.decoy ∧ ∀ a ∈ c.proteins, a ∈ p.proteins) := by
  obtain ⟨g1, g2⟩ := groups_exact _ gs h
  have hT := targets_agree h
  refine ⟨fun p hp => ?_, fun c hc => ?_⟩
  · obtain ⟨g, hg, hpg⟩ := List.mem_flatMap.1 hp
    rw [groupPeptides_congr cfg hT] at hpg
    obtain ⟨x, hx, rfl⟩ := mem_groupPeptides.1 hpg
    have mk : ∀ d ∈ fastaDigest cfg.par cfg.tag cfg.gen t, dk d = gk g →
        dress (sourceGroup d) x ∈ contribs cfg t := by
      intro d hd hk
      obtain ⟨e1, e2, e3⟩ := gkey_inj hk
      refine List.mem_flatMap.2 ⟨d, hd, mem_groupPeptides.2 ⟨x, ?_, rfl⟩⟩
      rw [← e1, ← e2, ← e3] at hx; exact hx
    refine ⟨?_, fun a ha => ?_⟩
    · obtain ⟨d, hd, hk⟩ := (g1 g hg).1
      exact ⟨_, mk d hd hk, rfl, rfl⟩
    · obtain ⟨d, hd, hk, hpa⟩ := (g1 g hg).2 a ha
      exact ⟨_, mk d hd hk, rfl, rfl, hpa ▸ List.mem_singleton_self _⟩
  · obtain ⟨d, hd, hcd⟩ := List.mem_flatMap.1 hc
    obtain ⟨x, hx, rfl⟩ := mem_groupPeptides.1 hcd
    obtain ⟨g, hg, hk, hpg⟩ := g2 d hd
    obtain ⟨e1, e2, e3⟩ := gkey_inj hk
    refine ⟨dress g x, List.mem_flatMap.2 ⟨g, hg, ?_⟩, rfl, rfl, fun a ha => ?_⟩
    · rw [groupPeptides_congr cfg hT]
      exact mem_groupPeptides.2 ⟨x, by rw [← e1, ← e2, ← e3]; exact hx, rfl⟩
    · rw [List.mem_singleton.1 ha]; exact hpg

end skeleton

/-- The first sentence of the property against the FASTA records themselves. `contribs cfg t` lists, for every
record and every peptide its digestion yields, the modified forms (with generated decoys, also their reversals)
that survive the rule "a decoy whose sequence is a target sequence is no entry", each with the record's accession
and decoy flag. The database is sorted by mass, has no two entries of the same form and only strictly increasing
protein lists; an entry lists EXACTLY the accessions of the contributions with its key, is a decoy iff all of them
are, has the least of their positions; every contribution is represented. -/
theorem db_canonical_sources (cfg : Cfg Rat) (t : List (C05.Seq × C05.Seq)) (db : List (DbPep Rat))
    (h : buildDb cfg t = some db) :
    db.Pairwise (fun a b => a.core.mono ≤ b.core.mono) ∧
    db.Pairwise (fun a b => keyEq a b = false) ∧
    (∀ e ∈ db, strictlyIncreasing e.proteins = true) ∧
    (∀ e ∈ db,
      (∃ c ∈ contribs cfg t, keyOf c = keyOf e) ∧
      (∀ a, a ∈ e.proteins ↔ ∃ c ∈ contribs cfg t, keyOf c = keyOf e ∧ a ∈ c.proteins) ∧
      (e.decoy = true ↔ ∀ c ∈ contribs cfg t, keyOf c = keyOf e → c.decoy = true) ∧
      ((∀ c ∈ contribs cfg t, keyOf c = keyOf e → pos6Rank e.core.position ≤ pos6Rank c.core.position) ∧
        ∃ c ∈ contribs cfg t, keyOf c = keyOf e ∧ e.core.position = c.core.position)) ∧
    (∀ c ∈ contribs cfg t, ∃ e ∈ db, keyOf e = keyOf c) := by
  obtain ⟨gs, hg, _, s1, s2, s3, ent, cov, _⟩ := db_canonical cfg t db h
  obtain ⟨b1, b2⟩ := digestPeptides_contribs cfg t hg
  refine ⟨s1, s2, s3, fun e he => ?_, fun c hc => ?_⟩
  · obtain ⟨x1, x2, x3, _, _, ⟨x6, x7⟩, _⟩ := ent e he
    refine ⟨?_, fun a => ?_, ?_, ?_, ?_⟩
    · obtain ⟨p, hp, hk⟩ := x1
      obtain ⟨c, hc, hcore, _⟩ := (b1 p hp).1
      exact ⟨c, hc, (keyOf_of_core hcore).trans hk⟩
    · refine (x2 a).trans ⟨?_, ?_⟩
      · rintro ⟨p, hp, hk, ha⟩
        obtain ⟨c, hc, hcore, _, hac⟩ := (b1 p hp).2 a ha
        exact ⟨c, hc, (keyOf_of_core hcore).trans hk, hac⟩
      · rintro ⟨c, hc, hk, ha⟩
        obtain ⟨p, hp, hcore, _, hsub⟩ := b2 c hc
        exact ⟨p, hp, (keyOf_of_core hcore).trans hk, hsub a ha⟩
    · refine x3.trans ⟨?_, ?_⟩
      · intro hall c hc hk
        obtain ⟨p, hp, hcore, hdec, _⟩ := b2 c hc
        exact hdec ▸ hall p hp ((keyOf_of_core hcore).trans hk)
      · intro hall p hp hk
        obtain ⟨c, hc, hcore, hdec⟩ := (b1 p hp).1
        exact hdec ▸ hall c hc ((keyOf_of_core hcore).trans hk)
    · intro c hc hk
      obtain ⟨p, hp, hcore, _, _⟩ := b2 c hc
      exact hcore ▸ x6 p hp ((keyOf_of_core hcore).trans hk)
    · obtain ⟨p, hp, hk, hpos⟩ := x7
      obtain ⟨c, hc, hcore, _⟩ := (b1 p hp).1
      exact ⟨c, hc, (keyOf_of_core hcore).trans hk, hpos.trans (congrArg _ hcore.symm)⟩
  · obtain ⟨p, hp, hcore, _, _⟩ := b2 c hc
    obtain ⟨e, he, hk⟩ := cov p hp
    exact ⟨e, he, hk.trans (keyOf_of_core hcore)⟩

/-- non-vacuity: the hypothesis is met by the two-protein FASTA of `Ex` (GGK shared by P1 and P2) -/
example : ∃ db, buildDb (⟨Ex.par, [114, 101, 118, 95], true, 18, Ex.table.map (fun n => (n : Rat)),
      [(.peptideN none, 42)], [], 1, 0, 100000⟩ : Cfg Rat) Ex.fasta = some db :=
  Option.isSome_iff_exists.1 (buildWith_isSome _ _ _)

/-- every group of `gs` has a counterpart in `gs'` that differs at most in the ORDER of its protein list -/
def GroupsSub (gs gs' : List Group) : Prop :=
  ∀ g ∈ gs, ∃ g' ∈ gs', gk g' = gk g ∧ g'.semi = g.semi ∧ g'.mc = g.mc ∧ ∀ a, a ∈ g'.proteins ↔ a ∈ g.proteins

theorem groups_arrangement {sd1 sd2 : List PDigest} {gs1 gs2 : List Group} (hp : sd1.Perm sd2)
    (h1 : groupsOf sd1 = some gs1) (h2 : groupsOf sd2 = some gs2) (s1 : sd1.Pairwise Le5) (s2 : sd2.Pairwise Le5) :
    GroupsSub gs1 gs2 := by
  intro g1 hg1
  obtain ⟨d0, hd0, k0, se0, mc0, min0, pr0⟩ := (groupsOf_runs h1 s1).1 g1 hg1
  obtain ⟨r2, c2⟩ := groupsOf_runs h2 s2
  obtain ⟨g2, hg2, hk2⟩ := c2 d0 (hp.subset hd0)
  obtain ⟨d0', hd0', k0', se0', mc0', min0', pr0'⟩ := r2 g2 hg2
  have hkk : gk g2 = gk g1 := hk2.symm.trans k0
  -- the two references are both least in the class, so they agree on the sort key
  have e5 : key5 d0 = key5 d0' :=
    lawful_cmp5.le_antisymm (min0 d0' (hp.symm.subset hd0') (k0'.trans hkk)) (min0' d0 (hp.subset hd0) hk2)
  simp only [key5, Prod.mk.injEq] at e5
  refine ⟨g2, hg2, hkk, by rw [se0', se0, e5.2.2.2.1], by rw [mc0', mc0, e5.2.2.2.2], fun a => ?_⟩
  simp only [pr0' a, pr0 a, hkk, hp.mem_iff]

section setcongr
variable {α : Type}

def SubUpToProteinOrder (l1 l2 : List (DbPep α)) : Prop :=
  ∀ p ∈ l1, ∃ q ∈ l2, q.core = p.core ∧ q.decoy = p.decoy ∧ q.semi = p.semi ∧ q.mc = p.mc ∧
    ∀ a, a ∈ q.proteins ↔ a ∈ p.proteins

theorem SubUpToProteinOrder.mem_finish {l1 l2 : List (DbPep α)} (h : SubUpToProteinOrder l1 l2) :
    ∀ x ∈ l1.map finishProteins, x ∈ l2.map finishProteins := by
  intro x hx
  obtain ⟨p, hp, rfl⟩ := List.mem_map.1 hx
  obtain ⟨q, hq, c1, c2, c3, c4, c5⟩ := h p hp
  refine List.mem_map.2 ⟨q, hq, DbPep.ext' c2 c1 c4 c3 ?_⟩
  exact strictlyIncreasing_ext (strict_finish_proteins q) (strict_finish_proteins p) fun a => by
    rw [mem_finish_proteins, mem_finish_proteins, c5]

variable [LinearOrder α]

theorem entryOf_map_finish (l : List (DbPep α)) (e : DbPep α) : EntryOf (l.map finishProteins) e ↔ EntryOf l e := by
  simp only [EntryOf, List.mem_map, exists_exists_and_eq_and, forall_exists_index, and_imp,
    forall_apply_eq_imp_iff₂, mem_finish_proteins]
  exact Iff.rfl

/-- The database depends on the vector handed to `reorder_peptides` only as a SET of (form, decoy, semi, missed
cleavages) with protein SETS: order, multiplicity and the order inside the protein lists are immaterial. -/
theorem reorder_set_congr (l1 l2 : List (DbPep α)) (h12 : SubUpToProteinOrder l1 l2)
    (h21 : SubUpToProteinOrder l2 l1) : reorder l1 = reorder l2 :=
  reorder_congr fun e => by
    rw [← entryOf_map_finish l1, ← entryOf_map_finish l2]
    exact EntryOf.congr (fun x => ⟨h12.mem_finish x, h21.mem_finish x⟩) e

end setcongr

/-- the database built from an ARRANGED digest list (`Parameters::digest` after the sort of `group_digests`) -/
def buildFrom (cfg : Cfg Rat) (sd : List PDigest) : Option (List (DbPep Rat)) :=
  (groupsOf sd).map fun gs => reorder (digestPeptides cfg gs (targetInserts gs))

theorem buildDb_eq_buildFrom (cfg : Cfg Rat) (t : List (C05.Seq × C05.Seq)) :
    buildDb cfg t = buildFrom cfg (sortDigests (fastaDigest cfg.par cfg.tag cfg.gen t)) := by
  unfold buildDb buildWith buildFrom
  rw [groupDigests_eq]; rfl

theorem pre_arrangement (cfg : Cfg Rat) {gs1 gs2 : List Group} (h12 : GroupsSub gs1 gs2) (h21 : GroupsSub gs2 gs1) :
    SubUpToProteinOrder (digestPeptides cfg gs1 (targetInserts gs1)) (digestPeptides cfg gs2 (targetInserts gs2)) := by
  have sub : ∀ {gs gs' : List Group}, GroupsSub gs gs' → ∀ y ∈ targetInserts gs, y ∈ targetInserts gs' := by
    intro gs gs' h y hy
    obtain ⟨g, hg, hd, rfl⟩ := mem_targetInserts.1 hy
    obtain ⟨g', hg', e, _⟩ := h g hg
    exact mem_targetInserts.2 ⟨g', hg', (gkey_inj e).2.1.trans hd, (gkey_inj e).2.2⟩
  have hT : ∀ y, y ∈ targetSet (targetInserts gs1) ↔ y ∈ targetSet (targetInserts gs2) := fun y => by
    rw [mem_targetSet, mem_targetSet]; exact ⟨sub h12 y, sub h21 y⟩
  intro p hp
  obtain ⟨g1, hg1, hpg⟩ := List.mem_flatMap.1 hp
  rw [groupPeptides_congr cfg hT] at hpg
  obtain ⟨x, hx, rfl⟩ := mem_groupPeptides.1 hpg
  obtain ⟨g2, hg2, e, es, em, ep⟩ := h12 g1 hg1
  obtain ⟨e1, e2, e3⟩ := gkey_inj e
  refine ⟨dress g2 x, List.mem_flatMap.2 ⟨g2, hg2, mem_groupPeptides.2 ⟨x, ?_, rfl⟩⟩, rfl, rfl, es, em, ep⟩
  rw [e1, e2, e3]
  exact hx

/-- "Whatever the interleaving of the parallel build", for the unstable sort of `group_digests`: ANY arrangement
`sd` of the digests sorted by the comparator of the code (position, decoy, sequence, semi_enzymatic,
missed_cleavages) gives exactly `buildDb`, so the model's tie-break by protein name is immaterial. The groups are
the same up to the order inside the protein lists, which `reorder_peptides` sorts anyway. -/
theorem digest_sort_irrelevant (cfg : Cfg Rat) (t : List (C05.Seq × C05.Seq)) (sd : List PDigest)
    (hp : sd.Perm (fastaDigest cfg.par cfg.tag cfg.gen t)) (hs : sd.Pairwise Le5) :
    buildFrom cfg sd = buildDb cfg t := by
  rw [buildDb_eq_buildFrom]
  generalize fastaDigest cfg.par cfg.tag cfg.gen t = ds at hp
  have hp' := hp.trans (List.mergeSort_perm ds leDigest).symm
  have hs' := sortDigests_sorted ds
  obtain ⟨gs1, h1⟩ := exists_groupsOf sd
  obtain ⟨gs2, h2⟩ := exists_groupsOf (sortDigests ds)
  have a12 := groups_arrangement hp' h1 h2 hs hs'
  have a21 := groups_arrangement hp'.symm h2 h1 hs' hs
  rw [buildFrom, buildFrom, h1, h2]
  exact congrArg some (reorder_set_congr _ _ (pre_arrangement cfg a12 a21) (pre_arrangement cfg a21 a12))

/-- non-vacuity: two digests that differ only in the protein name (`AAK` of two copies of a protein) are
    `Le5`-sorted in either order -/
example :
    let d1 : PDigest := ⟨false, false, [65, 65, 75], [80, 49], 0, .full⟩
    let d2 : PDigest := ⟨false, false, [65, 65, 75], [80, 50], 0, .full⟩
    [d1, d2] ≠ [d2, d1] ∧ [d2, d1].Perm [d1, d2] ∧ [d2, d1].Pairwise Le5 ∧ [d1, d2].Pairwise Le5 := by
  intro d1 d2
  have h : ∀ a b : PDigest, cmpDigest5 a b = .eq → [a, b].Pairwise Le5 := fun a b h =>
    List.pairwise_pair.2 fun e => by rw [h] at e; cases e
  exact ⟨by decide, List.Perm.swap _ _ _, h _ _ (by decide +kernel), h _ _ (by decide +kernel)⟩

theorem revInner_perm {β : Type} (n : Nat) (l : List β) : (revInner n l).Perm l := by
  unfold revInner
  split
  · rename_i hn
    have h1 : l = l.take 1 ++ ((l.drop 1).take (n - 1) ++ l.drop n) := by
      have e : (l.drop 1).drop (n - 1) = l.drop n := by
        rw [List.drop_drop]; congr 1; omega
      rw [← e, List.take_append_drop, List.take_append_drop]
    conv_rhs => rw [h1]
    rw [List.append_assoc]
    exact (List.Perm.refl _).append ((List.reverse_perm _).append (List.Perm.refl _))
  · exact List.Perm.refl _

theorem massOk_reverse {base : List Nat → Rat} (hbase : ∀ s s' : List Nat, s.Perm s' → base s = base s')
    {p : DbPep Rat} (h : MassOk base p) : MassOk base p.reverse := by
  unfold MassOk at h ⊢
  simp only [DbPep.reverse]
  rw [hbase _ _ (revInner_perm _ _), (revInner_perm _ p.core.mods).sum_eq]
  exact h

/-- Every peptide `Parameters::digest` hands to `reorder_peptides`, the reversed decoys included, is
mass-consistent: mass = water + residues of ITS sequence + all of ITS modification masses (`reverse` permutes
residues and modifications inside the peptide, which leaves both sums unchanged; exact arithmetic). -/
theorem massOk_groupPeptides (cfg : Cfg Rat) (T : List Str) (g : Group) :
    ∀ p ∈ groupPeptides cfg T g,
      MassOk (fun s => cfg.h2o + (s.map (C06.monoisotopic cfg.table)).sum) p := by
  intro p hp
  unfold groupPeptides at hp
  simp only at hp
  obtain ⟨hp, _⟩ := List.mem_filter.1 hp
  split at hp
  · obtain ⟨q, hq, hpq⟩ := List.mem_flatMap.1 hp
    obtain ⟨f, hf, rfl⟩ := List.mem_map.1 hq
    simp only [List.mem_cons, List.not_mem_nil, or_false] at hpq
    rcases hpq with rfl | rfl
    · exact massOk_reverse (fun s s' hs => by rw [(hs.map _).sum_eq]) (massOk_dbForms cfg hf)
    · exact massOk_dbForms cfg hf
  · obtain ⟨f, hf, rfl⟩ := List.mem_map.1 hp
    exact massOk_dbForms cfg hf

/-- In the vector ONE `Parameters::digest` hands to `reorder_peptides` (reversed decoys included) two forms with
the same (sequence, modifications, nterm, cterm) have the same mass: inside one build the mass-free merge test of
the repaired `reorder_peptides` merges exactly what a test including the mass merges, and the least mass of a class
is the mass of each of its members. -/
theorem pre_merge_mass_determined (cfg : Cfg Rat) (gs : List Group) (ins : List Str) (a b : DbPep Rat)
    (ha : a ∈ digestPeptides cfg gs ins) (hb : b ∈ digestPeptides cfg gs ins) (hk : keyOf a = keyOf b) :
    a.core.mono = b.core.mono := by
  obtain ⟨g, _, hag⟩ := List.mem_flatMap.1 ha
  obtain ⟨g', _, hbg⟩ := List.mem_flatMap.1 hb
  exact single_build_mass_determined _ a b (massOk_groupPeptides cfg _ g a hag) (massOk_groupPeptides cfg _ g' b hbg) hk

/-- non-vacuity: a reversed decoy is a different arrangement of residues and modifications with the same mass:
    `AC[+57]GK` (mass 434) reverses to `AGC[+57]K` -/
example :
    let p : DbPep Rat := ⟨false, ⟨.full, [65, 67, 71, 75], [0, 57, 0, 0], none, none, 434⟩, 0, false, [[80]]⟩
    p.reverse.core.sequence = [65, 71, 67, 75] ∧ p.reverse.core.mods = [0, 0, 57, 0] ∧ p.reverse.decoy = true ∧
    MassOk (fun s => 18 + (s.map (fun c => if c = 75 then (128 : Rat) else if c = 67 then 103 else if c = 65 then 71 else 57)).sum) p ∧
    MassOk (fun s => 18 + (s.map (fun c => if c = 75 then (128 : Rat) else if c = 67 then 103 else if c = 65 then 71 else 57)).sum) p.reverse := by
  intro p
  refine ⟨by decide +kernel, by decide +kernel, rfl, ?h, massOk_reverse (fun s s' hs => by rw [(hs.map _).sum_eq]) ?h⟩
  show (434 : Rat) = _
  decide +kernel

end Sage.C08
