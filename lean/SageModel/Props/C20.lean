import SageModel.Model.C20
import Mathlib.Algebra.Order.Field.Rat
import Mathlib.Algebra.Order.Field.Basic
import Mathlib.Algebra.Order.Ring.Abs
import Mathlib.Algebra.Order.BigOperators.Group.List
import Mathlib.Tactic.Ring
import Mathlib.Tactic.FieldSimp
import Mathlib.Tactic.LinearCombination

/-!
# C20 — Retention-time alignment is affine-equivariant, bounded and NaN-free

Property text: *Global alignment maps each file onto a common 0-1 scale by a per-file linear
transform: files whose retention times are exact affine transforms of one another receive equal
aligned times for the same peptide (to rounding), and a file on its own is mapped monotonically.
Aligned times, alignment parameters, predicted retention times (clamped to [0, 1]) and
delta_rt_model (= |aligned - predicted|) are finite for every input, including files with no
confident PSM and files whose retention times are all zero or absent.*

All theorems are about the definitions of `SageModel/Model/C20.lean` (the model of
`global_alignment` and of the clamp/delta step of `predict`), for every feature list, every number
of files and every number of peptides. The algebraic theorems are exact statements in an ordered field
(ℚ); the code computes the same expressions in f64/f32, so they hold there "to rounding": no theorem is
about IEEE rounding, the correspondence run bounds it (see `Drv/C20.lean`). The finiteness theorems are
about the instantiation at `XQ = Option ℚ` (`none` = NaN/±∞, `x / 0 = none`, `none` absorbing): they
show that no division by zero / NaN survives into an output; overflow to ±∞ is not modelled.
-/

namespace Sage.C20
open FloatLike

section fieldOnly
variable {α : Type} [Field α]

theorem sumFrom_eq (init : α) (l : List α) : sumFrom init l = init + l.sum := by
  unfold sumFrom
  induction l generalizing init with
  | nil => simp
  | cons a l ih => simp only [List.foldl_cons, ih, List.sum_cons]; ring

def sX (pts : List (α × α)) : α := (pts.map (·.1)).sum
def sY (pts : List (α × α)) : α := (pts.map (·.2)).sum
def sXY (pts : List (α × α)) : α := (pts.map fun p => p.1 * p.2).sum
def sSq (pts : List (α × α)) (m : α) : α := (pts.map fun p => (p.1 - m) * (p.1 - m)).sum
/-- `Sxx = Σ (x − x̄)²`, the code's `sx2` without its initial `ε` -/
def sxx (pts : List (α × α)) : α := sSq pts (sX pts / (pts.length : α))
def sXX (pts : List (α × α)) : α := (pts.map fun p => p.1 * p.1).sum
/-- the code's `ssxy = dot − len·x̄·ȳ` -/
def sxy (pts : List (α × α)) : α :=
  sXY pts - (pts.length : α) * (sX pts / (pts.length : α)) * (sY pts / (pts.length : α))

def affX (a b : α) (pts : List (α × α)) : List (α × α) := pts.map fun p => (a * p.1 + b, p.2)

variable (a b : α) (pts : List (α × α))

theorem fit_eq (ε : α) :
    fit ε pts = (sxy pts / (ε + sxx pts),
      sY pts / (pts.length : α) - sxy pts / (ε + sxx pts) * (sX pts / (pts.length : α))) := by
  simp only [fit, sumFrom_eq, Nat.cast_zero, zero_add, sX, sY, sXY, sSq, sxx, sxy]

theorem fit_slope (ε : α) : (fit ε pts).1 = sxy pts / (ε + sxx pts) := by
  rw [fit_eq]

theorem fit_apply (ε x : α) :
    (fit ε pts).1 * x + (fit ε pts).2
      = sY pts / (pts.length : α) + (fit ε pts).1 * (x - sX pts / (pts.length : α)) := by
  rw [fit_eq]; ring

@[simp] theorem affX_length : (affX a b pts).length = pts.length :=
  List.length_map _

theorem sX_affX : sX (affX a b pts) = a * sX pts + (pts.length : α) * b := by
  induction pts with
  | nil => simp [sX, affX]
  | cons p pts ih =>
    simp only [sX, affX, List.map_cons, List.sum_cons, List.length_cons, Nat.cast_succ] at ih ⊢
    rw [ih]; ring

theorem sY_affX : sY (affX a b pts) = sY pts := by
  simp [sY, affX, List.map_map, Function.comp_def]

theorem sXY_affX : sXY (affX a b pts) = a * sXY pts + b * sY pts := by
  induction pts with
  | nil => simp [sXY, sY, affX]
  | cons p pts ih =>
    simp only [sXY, sY, affX, List.map_cons, List.sum_cons] at ih ⊢
    rw [ih]; ring

theorem sSq_affX (m : α) : sSq (affX a b pts) (a * m + b) = a ^ 2 * sSq pts m := by
  induction pts with
  | nil => simp [sSq, affX]
  | cons p pts ih =>
    simp only [sSq, affX, List.map_cons, List.sum_cons] at ih ⊢
    rw [ih]; ring

theorem sSq_expand (m : α) :
    sSq pts m = sXX pts - 2 * m * sX pts + (pts.length : α) * m * m := by
  induction pts with
  | nil => simp [sSq, sX, sXX]
  | cons p pts ih =>
    simp only [sSq, sX, sXX, List.map_cons, List.sum_cons, List.length_cons, Nat.cast_succ] at ih ⊢
    rw [ih]; ring

theorem sSq_mean (m : α) (hm : (pts.length : α) * m = sX pts) :
    sSq pts m = sXX pts - (pts.length : α) * m * m := by
  rw [sSq_expand]; linear_combination (2 * m) * hm

/-- The per-file regression of `global_alignment` as a closed form of `n, Σx, Σy, Σxy, Σx²` over all of
    the file's anchors (no cap): what the driver's exact-arithmetic model of the large-scale op
    `alignbig` evaluates. -/
theorem fit_closed_form (ε : α) (pts : List (α × α)) (hn : (pts.length : α) ≠ 0) :
    fit ε pts =
      (let n : α := (pts.length : α)
       let slope := (sXY pts - sX pts * sY pts / n) / (ε + (sXX pts - sX pts * sX pts / n))
       (slope, sY pts / n - slope * (sX pts / n))) := by
  have hm : (pts.length : α) * (sX pts / (pts.length : α)) = sX pts := mul_div_cancel₀ _ hn
  simp only [fit_eq, sxy, sxx, sSq_mean pts _ hm, hm, mul_div_assoc]

theorem fit_slope_shrink (ε : α) (hC : sxx pts ≠ 0) :
    (fit ε pts).1 = (fit 0 pts).1 * (sxx pts / (ε + sxx pts)) := by
  rw [fit_slope, fit_slope, zero_add, div_mul_div_cancel₀ hC]

variable (hn : (pts.length : α) ≠ 0)
include hn

theorem xbar_affX :
    sX (affX a b pts) / ((affX a b pts).length : α) = a * (sX pts / (pts.length : α)) + b := by
  rw [sX_affX, affX_length, add_div, mul_div_assoc, mul_div_cancel_left₀ _ hn]

theorem sxx_affX : sxx (affX a b pts) = a ^ 2 * sxx pts := by
  rw [sxx, xbar_affX a b pts hn, sSq_affX, sxx]

theorem sxy_affX : sxy (affX a b pts) = a * sxy pts := by
  rw [sxy, xbar_affX a b pts hn, affX_length, sXY_affX, sY_affX, sxy]
  linear_combination (-b) * mul_div_cancel₀ (sY pts) hn

theorem slope_affX (ε : α) (ha : a ≠ 0) : (fit (a ^ 2 * ε) (affX a b pts)).1 * a = (fit ε pts).1 := by
  rw [fit_slope, fit_slope, sxx_affX a b pts hn, sxy_affX a b pts hn, ← mul_add,
    ← mul_div_mul_left (sxy pts) _ (pow_ne_zero 2 ha)]
  ring

theorem slope_term_affX (ε x : α) (ha : a ≠ 0) :
    (fit (a ^ 2 * ε) (affX a b pts)).1 * ((a * x + b) - sX (affX a b pts) / ((affX a b pts).length : α))
      = (fit ε pts).1 * (x - sX pts / (pts.length : α)) := by
  rw [xbar_affX a b pts hn, ← slope_affX a b pts hn ε ha]
  ring

theorem fit_affX (ε x : α) (ha : a ≠ 0) :
    (fit (a ^ 2 * ε) (affX a b pts)).1 * (a * x + b) + (fit (a ^ 2 * ε) (affX a b pts)).2
      = (fit ε pts).1 * x + (fit ε pts).2 := by
  rw [fit_apply, fit_apply, slope_term_affX a b pts hn ε x ha, sY_affX, affX_length]

end fieldOnly

section field
variable {α : Type} [Field α] [LinearOrder α] [IsStrictOrderedRing α] (pts : List (α × α))

theorem cast_length_ne_zero (h : pts ≠ []) : (pts.length : α) ≠ 0 :=
  Nat.cast_ne_zero.mpr (mt List.eq_nil_of_length_eq_zero h)

theorem sSq_terms_nonneg (m : α) :
    ∀ t ∈ pts.map fun p => (p.1 - m) * (p.1 - m), 0 ≤ t :=
  List.forall_mem_map.mpr fun _ _ => mul_self_nonneg _

theorem sSq_nonneg (m : α) : 0 ≤ sSq pts m :=
  List.sum_nonneg (sSq_terms_nonneg pts m)

theorem sSq_pos_of_ne (m : α) {p q : α × α} (hp : p ∈ pts) (hq : q ∈ pts)
    (hne : p.1 ≠ q.1) : 0 < sSq pts m := by
  by_contra h0
  have key : ∀ r ∈ pts, r.1 = m := fun r hr => sub_eq_zero.mp (mul_self_eq_zero.mp
    (le_antisymm ((List.single_le_sum (sSq_terms_nonneg pts m) _ (List.mem_map_of_mem hr)).trans
      (not_lt.mp h0)) (mul_self_nonneg _)))
  exact hne ((key p hp).trans (key q hq).symm)

theorem length_ne_zero_of_sxx (h : sxx pts ≠ 0) : (pts.length : α) ≠ 0 :=
  cast_length_ne_zero pts fun h0 => h (by rw [h0]; rfl)

/-- no `n ≠ 0` hypothesis: for the empty list it reads `0 · (0/0) = 0` -/
theorem length_mul_mean : (pts.length : α) * (sX pts / (pts.length : α)) = sX pts :=
  mul_div_cancel_of_imp' fun h => by
    rw [List.eq_nil_of_length_eq_zero (Nat.cast_eq_zero.mp h)]; rfl

/-- "Exact affine transforms receive equal aligned times", for one file's regression without the
    regulariser: replacing every normalised RT `x` by `a·x + b` (cross-run means `y` unchanged) leaves
    every fitted value unchanged. `Sxx ≠ 0`: at least two distinct `x`. -/
theorem ols_equivariant (pts : List (α × α)) (a b x : α) (ha : a ≠ 0) (hS : sxx pts ≠ 0) :
    (fit 0 (affX a b pts)).1 * (a * x + b) + (fit 0 (affX a b pts)).2
      = (fit 0 pts).1 * x + (fit 0 pts).2 := by
  have h := fit_affX a b pts (length_ne_zero_of_sxx pts hS) 0 x ha
  rwa [mul_zero] at h

/-- The same with the code's regulariser, which scales as `x²`: the transformed file with `a²·ε` is
    fitted as the original with `ε`. The code uses the same `ε = 10⁻⁸` in both files; what that costs is
    `equivariant_eps_bound`. -/
theorem ols_equivariant_eps (pts : List (α × α)) (ε a b x : α) (ha : a ≠ 0) (hε : 0 < ε)
    (hne : pts ≠ []) :
    (fit (a ^ 2 * ε) (affX a b pts)).1 * (a * x + b) + (fit (a ^ 2 * ε) (affX a b pts)).2
      = (fit ε pts).1 * x + (fit ε pts).2 :=
  fit_affX a b pts (cast_length_ne_zero pts hne) ε x ha

/-- What the regulariser `sx2 = 1E-8 + …` costs: the fitted value moves by at most the relative amount
    `ε / Sxx` of `slope₀·(x − x̄)`, its un-regularised distance from `ȳ`. -/
theorem ols_eps_bound (pts : List (α × α)) (ε x : α) (hε : 0 ≤ ε) (hS : 0 < sxx pts) :
    |((fit ε pts).1 * x + (fit ε pts).2) - ((fit 0 pts).1 * x + (fit 0 pts).2)|
      ≤ |(fit 0 pts).1 * (x - sX pts / (pts.length : α))| * (ε / sxx pts) := by
  have hle : sxx pts ≤ ε + sxx pts := le_add_of_nonneg_left hε
  have hd : 0 < ε + sxx pts := hS.trans_le hle
  -- the difference is exactly `slope₀·(x − x̄) · ε/(ε + Sxx)`; the only estimate is `ε/(ε + Sxx) ≤ ε/Sxx`
  rw [abs_sub_comm, fit_apply, fit_apply, add_sub_add_left_eq_sub, ← sub_mul,
    fit_slope_shrink pts ε hS.ne', ← mul_one_sub, one_sub_div hd.ne', add_sub_cancel_right,
    mul_right_comm, abs_mul, abs_of_nonneg (div_nonneg hε hd.le)]
  exact mul_le_mul_of_nonneg_left (div_le_div_of_nonneg_left hε hS hle) (abs_nonneg _)

/-- "Equal aligned times (to rounding)" with the code's regulariser, the same ε in both files: the fitted
    values of corresponding retention times differ by at most `|slope₀·(x − x̄)| · ε · (1/Sxx_f + 1/Sxx_g)`.
    For ε = 10⁻⁸ and `Sxx ≥ 2·10⁻⁶` in both files (two anchors `2·10⁻³` apart) that is 10⁻² of
    `|slope₀·(x − x̄)|`. The executable spec clause `not_equivariant` applies this bound. -/
theorem equivariant_eps_bound (pts : List (α × α)) (ε a b x : α) (hε : 0 ≤ ε) (ha : a ≠ 0)
    (hS : 0 < sxx pts) :
    |((fit ε (affX a b pts)).1 * (a * x + b) + (fit ε (affX a b pts)).2)
        - ((fit ε pts).1 * x + (fit ε pts).2)|
      ≤ |(fit 0 pts).1 * (x - sX pts / (pts.length : α))|
          * (ε / sxx pts + ε / sxx (affX a b pts)) := by
  have hn := length_ne_zero_of_sxx pts hS.ne'
  have hS' : 0 < sxx (affX a b pts) := by
    rw [sxx_affX a b pts hn]
    exact mul_pos (sq_pos_of_ne_zero ha) hS
  have b1 := ols_eps_bound pts ε x hε hS
  have b2 := ols_eps_bound (affX a b pts) ε (a * x + b) hε hS'
  have ht := slope_term_affX a b pts hn 0 x ha
  rw [mul_zero] at ht
  rw [ht, ols_equivariant pts a b x ha hS.ne'] at b2
  rw [abs_sub_comm] at b1
  refine (abs_sub_le _ _ _).trans ((add_le_add b2 b1).trans_eq ?_)
  rw [← mul_add, add_comm]

/-- "Mapped monotonically"; for a file on its own `own_file_slope` supplies `hs`. -/
theorem aligned_monotone (mx slope intercept rt rt' : α) (hmx : 0 < mx) (hs : 0 ≤ slope) (h : rt ≤ rt') :
    alignedRt rt mx slope intercept ≤ alignedRt rt' mx slope intercept :=
  add_le_add_left (mul_le_mul_of_nonneg_right (div_le_div_of_nonneg_right h hmx.le) hs) _

theorem fit_of_diag (ε : α) (hy : ∀ p ∈ pts, p.2 = p.1) :
    fit ε pts = (sxx pts / (ε + sxx pts),
      sX pts / (pts.length : α) - sxx pts / (ε + sxx pts) * (sX pts / (pts.length : α))) := by
  have hsy : sY pts = sX pts := congrArg List.sum (List.map_congr_left hy)
  have hxy : sXY pts = sXX pts := congrArg List.sum (List.map_congr_left fun p hp => by rw [hy p hp])
  rw [fit_eq, sxy, sxx, sSq_mean pts _ (length_mul_mean pts), hsy, hxy]

/-- A file all of whose regression points have `y = x` (on its own, or every file that shares a peptide
    has the same normalised RT for it) gets exactly `slope = Sxx/(ε + Sxx)`, `intercept = x̄·(1 − slope)`.
    Spec clause `diagonal_fit_ne_closed_form`. -/
theorem diag_fit_eq (pts : List (α × α)) (ε : α) (_hε : 0 < ε) (hy : ∀ p ∈ pts, p.2 = p.1) :
    (fit ε pts).1 = sxx pts / (ε + sxx pts) ∧
    (fit ε pts).2 = (sX pts / (pts.length : α)) * (1 - (fit ε pts).1) := by
  rw [fit_of_diag pts ε hy, mul_one_sub, mul_comm]
  exact ⟨rfl, rfl⟩

/-- A file "on its own" (none of its peptides is seen in another file, so every regression point has
    `y = x`) gets a slope in `[0, 1]`. -/
theorem own_file_slope (pts : List (α × α)) (ε : α) (hε : 0 < ε) (hy : ∀ p ∈ pts, p.2 = p.1) :
    0 ≤ (fit ε pts).1 ∧ (fit ε pts).1 ≤ 1 := by
  have hC : 0 ≤ sxx pts := sSq_nonneg _ _
  have hle : sxx pts ≤ ε + sxx pts := le_add_of_nonneg_left hε.le
  rw [(diag_fit_eq pts ε hε hy).1]
  exact ⟨div_nonneg hC (hC.trans hle), div_le_one_of_le₀ hle (hC.trans hle)⟩

/-- Such a file's map is the identity on normalised RTs up to the regulariser. Two such files therefore
    send the same normalised RT to aligned times at most `ε(|x−x̄_f|/Sxx_f + |x−x̄_g|/Sxx_g)` apart, however
    different their peptide sets: the form of the equivariance clause checked on `alignbig` (file 1 =
    file 0 doubled, half the peptides). -/
theorem diag_fit_dev (pts : List (α × α)) (ε x : α) (hε : 0 < ε) (hS : 0 < sxx pts)
    (hy : ∀ p ∈ pts, p.2 = p.1) :
    |((fit ε pts).1 * x + (fit ε pts).2) - x| ≤ |x - sX pts / (pts.length : α)| * (ε / sxx pts) := by
  have h0 : fit 0 pts = (1, 0) := by
    rw [fit_of_diag pts 0 hy, zero_add, div_self hS.ne', one_mul, sub_self]
  have h := ols_eps_bound pts ε x hε.le hS
  rwa [h0, one_mul, one_mul, add_zero] at h

end field

section clamp
variable {α : Type} [LinearOrder α]

theorem clamp_of_lt {r lo : α} (hi : α) (h : r < lo) : clamp r lo hi = lo := if_pos h

theorem clamp_of_gt {r lo hi : α} (h : lo ≤ hi) (h' : hi < r) : clamp r lo hi = hi :=
  (if_neg (not_lt.mpr (h.trans h'.le))).trans (if_pos h')

theorem clamp_of_mem {r lo hi : α} (h1 : lo ≤ r) (h2 : r ≤ hi) : clamp r lo hi = r :=
  (if_neg (not_lt.mpr h1)).trans (if_neg (not_lt.mpr h2))

theorem clamp_mem (r : α) {lo hi : α} (h : lo ≤ hi) : lo ≤ clamp r lo hi ∧ clamp r lo hi ≤ hi := by
  rcases lt_or_ge r lo with h1 | h1
  · rw [clamp_of_lt hi h1]; exact ⟨le_rfl, h⟩
  rcases lt_or_ge hi r with h2 | h2
  · rw [clamp_of_gt h h2]; exact ⟨h, le_rfl⟩
  · rw [clamp_of_mem h1 h2]; exact ⟨h1, h2⟩

end clamp

section field
variable {α : Type} [Field α] [LinearOrder α] [IsStrictOrderedRing α]

/-- The clamp/delta step of `predict`: the stored prediction lies in `[lo, hi]` (`[0,1]` for RT, `[0,2]`
    for ion mobility) whatever the regression returned, and `delta_rt_model` is
    `|observed − stored prediction|`. -/
theorem clamp_delta (lo hi r obs : α) (h : lo ≤ hi) :
    let out := predictOut (fun x : α => x) (fun x : α => |x|) lo hi r obs
    lo ≤ out.1 ∧ out.1 ≤ hi ∧ out.2 = |obs - out.1| ∧ 0 ≤ out.2 :=
  ⟨(clamp_mem r h).1, (clamp_mem r h).2, rfl, abs_nonneg _⟩

/-- `predict` clamps and does nothing else: a raw prediction inside `[lo, hi]` is stored unchanged, one
    outside becomes the nearer end; and for an observed value inside the range clamping never increases
    the reported delta. -/
theorem clamp_exact (lo hi r obs : α) (h : lo ≤ hi) :
    let out := predictOut (fun x : α => x) (fun x : α => |x|) lo hi r obs
    (lo ≤ r → r ≤ hi → out.1 = r ∧ out.2 = |obs - r|) ∧
    (r < lo → out.1 = lo) ∧ (hi < r → out.1 = hi) ∧
    (lo ≤ obs → obs ≤ hi → out.2 ≤ |obs - r|) := by
  refine ⟨fun a b => ⟨clamp_of_mem a b, congrArg (|obs - ·|) (clamp_of_mem a b)⟩,
    clamp_of_lt hi, clamp_of_gt h, fun a b => ?_⟩
  show |obs - clamp r lo hi| ≤ |obs - r|
  rcases lt_or_ge r lo with h1 | h1
  · rw [clamp_of_lt hi h1]
    exact abs_le_abs_of_nonneg (sub_nonneg.mpr a) (sub_le_sub_left h1.le obs)
  rcases lt_or_ge hi r with h2 | h2
  · rw [clamp_of_gt h h2]
    exact abs_le_abs_of_nonpos (sub_nonpos.mpr b) (sub_le_sub_left h2.le obs)
  · rw [clamp_of_mem h1 h2]

end field

/-- `some q` = the finite value `q`; `none` = NaN / ±∞ (absorbing). Division by zero gives `none`. -/
structure XQ where
  val : Option ℚ

namespace XQ

def lift2 (f : ℚ → ℚ → ℚ) (a b : XQ) : XQ :=
  ⟨match a.val, b.val with
    | some x, some y => some (f x y)
    | _, _ => none⟩

instance : Add XQ := ⟨lift2 (· + ·)⟩
instance : Sub XQ := ⟨lift2 (· - ·)⟩
instance : Mul XQ := ⟨lift2 (· * ·)⟩
instance : Div XQ := ⟨fun a b =>
  ⟨match a.val, b.val with
    | some x, some y => if y = 0 then none else some (x / y)
    | _, _ => none⟩⟩
instance : NatCast XQ := ⟨fun n => ⟨some (n : ℚ)⟩⟩

/-- comparisons with a non-finite value are false (IEEE comparisons with NaN) -/
def lt (a b : XQ) : Prop := match a.val, b.val with
  | some x, some y => x < y
  | _, _ => False
def le (a b : XQ) : Prop := match a.val, b.val with
  | some x, some y => x ≤ y
  | _, _ => False
instance : LT XQ := ⟨lt⟩
instance : LE XQ := ⟨le⟩
instance : DecidableLT XQ := fun a b => by
  show Decidable (lt a b); unfold lt; split <;> infer_instance
instance : DecidableLE XQ := fun a b => by
  show Decidable (le a b); unfold le; split <;> infer_instance

instance : FloatLike XQ where
  isFinite a := a.val.isSome
  isNaN a := a.val.isNone
  isNormal a := match a.val with
    | some x => decide (x ≠ 0)
    | none => false

theorem natCast_val (n : Nat) : ((n : XQ)).val = some (n : ℚ) := rfl

def ofQ (q : ℚ) : XQ := ⟨some q⟩
theorem ofQ_add (a b : ℚ) : ofQ a + ofQ b = ofQ (a + b) := rfl
theorem ofQ_sub (a b : ℚ) : ofQ a - ofQ b = ofQ (a - b) := rfl
theorem ofQ_mul (a b : ℚ) : ofQ a * ofQ b = ofQ (a * b) := rfl
theorem ofQ_div (a b : ℚ) (hb : b ≠ 0) : ofQ a / ofQ b = ofQ (a / b) :=
  congrArg XQ.mk (if_neg hb)
theorem natCast_eq (n : Nat) : (n : XQ) = ofQ (n : ℚ) := rfl

theorem finite_iff (a : XQ) : isFinite a = true ↔ ∃ q, a = ofQ q := by
  obtain ⟨_ | q⟩ := a
  · exact ⟨fun h => (nomatch h), fun ⟨_, h⟩ => (nomatch h)⟩
  · exact ⟨fun _ => ⟨q, rfl⟩, fun _ => rfl⟩

theorem div_natCast_finite {a : XQ} {n : Nat} (hn : 0 < n) (ha : isFinite a = true) :
    isFinite (a / (n : XQ)) = true := by
  obtain ⟨q, rfl⟩ := (finite_iff a).mp ha
  rw [natCast_eq, ofQ_div _ _ (Nat.cast_ne_zero.mpr hn.ne')]; rfl

theorem lift2_finite (f : ℚ → ℚ → ℚ) {a b : XQ} (ha : isFinite a = true) (hb : isFinite b = true) :
    isFinite (lift2 f a b) = true := by
  obtain ⟨x, rfl⟩ := (finite_iff a).mp ha
  obtain ⟨y, rfl⟩ := (finite_iff b).mp hb
  rfl

end XQ

def liftPts (pts : List (ℚ × ℚ)) : List (XQ × XQ) := pts.map fun p => (XQ.ofQ p.1, XQ.ofQ p.2)

theorem sumFrom_map_ofQ {β : Type} (g : β → ℚ) (init : ℚ) (l : List β) :
    sumFrom (XQ.ofQ init) (l.map fun p => XQ.ofQ (g p)) = XQ.ofQ (sumFrom init (l.map g)) := by
  induction l generalizing init with
  | nil => rfl
  | cons p l ih => exact ih (init + g p)

theorem fit_ofQ (e : ℚ) (he : 0 < e) (pts : List (ℚ × ℚ)) (hne : pts ≠ []) :
    fit (XQ.ofQ e) (liftPts pts) = (XQ.ofQ (fit e pts).1, XQ.ofQ (fit e pts).2) := by
  have hn : (pts.length : ℚ) ≠ 0 := cast_length_ne_zero pts hne
  have hsq : ∀ m : ℚ, sumFrom e (pts.map fun p => (p.1 - m) * (p.1 - m)) ≠ 0 := fun m => by
    rw [sumFrom_eq]; exact (add_pos_of_pos_of_nonneg he (sSq_nonneg pts m)).ne'
  unfold fit
  simp only [liftPts, List.length_map, List.map_map, Function.comp_def, XQ.natCast_eq, XQ.ofQ_mul,
    sumFrom_map_ofQ, XQ.ofQ_div _ _ hn, XQ.ofQ_sub, XQ.ofQ_div _ _ (hsq _)]

/-- The fallbacks `!is_finite ⇒ 1.0 / 0.0` are only ever needed for a file without usable rows: for a
    non-empty regression over finite points the raw slope and intercept are already finite in `XQ` (no
    division by zero: `len ≠ 0`, `sx2 ≥ ε > 0`) and the guards change nothing. -/
theorem fit_finite_of_nonempty (e : ℚ) (he : 0 < e) (pts : List (ℚ × ℚ)) (hne : pts ≠ []) :
    isFinite (fit (XQ.ofQ e) (liftPts pts)).1 = true ∧ isFinite (fit (XQ.ofQ e) (liftPts pts)).2 = true ∧
    guardFinite (fit (XQ.ofQ e) (liftPts pts)) = fit (XQ.ofQ e) (liftPts pts) := by
  rw [fit_ofQ e he pts hne]
  exact ⟨rfl, rfl, rfl⟩

theorem maxRtNat_pos {α : Type} (ceilNat : α → Nat) (fs : List (Feat α)) (f : Nat) :
    0 < maxRtNat ceilNat fs f := by
  unfold maxRtNat
  simp only
  split <;> omega

theorem foldl_max_ge {β : Type} (g : β → Nat) (l : List β) (m : Nat) :
    m ≤ l.foldl (fun m x => max m (g x)) m ∧ ∀ x ∈ l, g x ≤ l.foldl (fun m x => max m (g x)) m := by
  induction l generalizing m with
  | nil => exact ⟨le_rfl, fun _ h => nomatch h⟩
  | cons a l ih =>
    obtain ⟨h1, h2⟩ := ih (max m (g a))
    exact ⟨(le_max_left _ _).trans h1, List.forall_mem_cons.mpr ⟨(le_max_right _ _).trans h1, h2⟩⟩

theorem le_maxRtNat {α : Type} (ceilNat : α → Nat) (fs : List (Feat α)) (x : Feat α) (hx : x ∈ fs) :
    ceilNat x.rt ≤ maxRtNat ceilNat fs x.file := by
  have hle := (foldl_max_ge (fun y : Feat α => ceilNat y.rt) (fs.filter (fun y => y.file == x.file)) 0).2 x
    (List.mem_filter.mpr ⟨hx, beq_self_eq_true _⟩)
  unfold maxRtNat
  simp only
  split <;> omega

theorem guardFinite_finite {α : Type} [NatCast α] [FloatLike α]
    (h1 : isFinite ((1 : Nat) : α) = true) (h0 : isFinite ((0 : Nat) : α) = true) (si : α × α) :
    isFinite (guardFinite si).1 = true ∧ isFinite (guardFinite si).2 = true := by
  unfold guardFinite
  constructor
  · by_cases h : isFinite si.1 = true <;> simp [h, h1]
  · by_cases h : isFinite si.2 = true <;> simp [h, h0]

theorem globalAlignment_eq_some {α : Type} [NatCast α] [Add α] [Sub α] [Mul α] [Div α] [LT α] [DecidableLT α]
    [LE α] [DecidableLE α] [FloatLike α] {narrow ceilNat} {thr ε : α} {fs nFiles al}
    (h : globalAlignment narrow ceilNat thr ε fs nFiles = some al) :
    (∀ x ∈ fs, x.file < nFiles) ∧
      al = (List.range nFiles).map (alignFile narrow ceilNat ε fs (rtRows ceilNat thr fs nFiles)) := by
  unfold globalAlignment at h
  split at h
  · cases h
  · rename_i hany
    simp only [List.any_eq_true, decide_eq_true_eq, not_exists, not_and, not_le] at hany
    exact ⟨hany, (Option.some.inj h).symm⟩

/-- `max_rt_by_file` with its unit-scale fallback: every file's scale is a positive integer, for every
    input (files with no PSM, all-zero or negative or NaN retention times included). -/
theorem max_rt_pos {α : Type} [NatCast α] [Add α] [Sub α] [Mul α] [Div α] [LT α] [DecidableLT α]
    [LE α] [DecidableLE α] [FloatLike α]
    (narrow : α → α) (ceilNat : α → Nat) (thr ε : α) (fs : List (Feat α)) (nFiles : Nat)
    (al : List (Nat × α × α)) (h : globalAlignment narrow ceilNat thr ε fs nFiles = some al) :
    al.length = nFiles ∧ ∀ a ∈ al, 0 < a.1 := by
  obtain ⟨_, rfl⟩ := globalAlignment_eq_some h
  refine ⟨by rw [List.length_map, List.length_range], fun a ha => ?_⟩
  obtain ⟨f, _, rfl⟩ := List.mem_map.mp ha
  exact maxRtNat_pos _ _ _

/-- "Alignment parameters are finite for every input" (RTs may be zero, negative or non-finite; files
    may have no confident PSM): the two guards `!is_finite ⇒ 1.0 / 0.0` are sufficient. Stated in `XQ`,
    where `x/0` is non-finite and absorbing; `narrow` (the `as f32`) is any cast that keeps finite values
    finite, so overflow in the cast is left out. -/
theorem params_finite (narrow : XQ → XQ) (hn : ∀ x, isFinite x = true → isFinite (narrow x) = true)
    (ceilNat : XQ → Nat) (thr ε : XQ) (fs : List (Feat XQ)) (nFiles : Nat)
    (al : List (Nat × XQ × XQ)) (h : globalAlignment narrow ceilNat thr ε fs nFiles = some al) :
    ∀ a ∈ al, 0 < a.1 ∧ isFinite a.2.1 = true ∧ isFinite a.2.2 = true := by
  intro a ha
  refine ⟨(max_rt_pos narrow ceilNat thr ε fs nFiles al h).2 a ha, ?_⟩
  obtain ⟨_, rfl⟩ := globalAlignment_eq_some h
  obtain ⟨f, _, rfl⟩ := List.mem_map.mp ha
  have hg := guardFinite_finite (α := XQ) rfl rfl (fit ε (pairs (rtRows ceilNat thr fs nFiles) f))
  exact ⟨hn _ hg.1, hn _ hg.2⟩

/-- "Aligned times are finite for every input": every feature with a finite RT gets a finite
    `aligned_rt`, on every input on which the code does not panic (`file_id < n_files`). `max_rt` is a
    positive integer, so `rt / max_rt` is finite. -/
theorem aligned_finite (narrow : XQ → XQ) (hn : ∀ x, isFinite x = true → isFinite (narrow x) = true)
    (ceilNat : XQ → Nat) (thr ε : XQ) (fs : List (Feat XQ)) (nFiles : Nat)
    (al : List (Nat × XQ × XQ)) (h : globalAlignment narrow ceilNat thr ε fs nFiles = some al)
    (x : Feat XQ) (hx : x ∈ fs) (hrt : isFinite x.rt = true) :
    ∃ a, al[x.file]? = some a ∧ isFinite (alignedRt x.rt ((a.1 : Nat) : XQ) a.2.1 a.2.2) = true := by
  have hlt : x.file < al.length := by
    rw [(max_rt_pos narrow ceilNat thr ε fs nFiles al h).1]
    exact (globalAlignment_eq_some h).1 x hx
  obtain ⟨hpos, hs, hi⟩ := params_finite narrow hn ceilNat thr ε fs nFiles al h al[x.file]
    (List.getElem_mem hlt)
  exact ⟨al[x.file], List.getElem?_eq_getElem hlt,
    XQ.lift2_finite _ (XQ.lift2_finite _ (XQ.div_natCast_finite hpos hrt) hs) hi⟩

/-- "A common 0–1 scale": every non-negative RT of a file, divided by the file's `max_rt`, lies in
    `[0, 1]`. `hc`: `rt.ceil() as u32` is an upper bound of `rt`, which holds below 2³². -/
theorem scale_unit (c : ℚ → Nat) (hc : ∀ r : ℚ, r ≤ (c r : ℚ)) (fs : List (Feat ℚ)) (x : Feat ℚ)
    (hx : x ∈ fs) (h0 : 0 ≤ x.rt) :
    0 ≤ x.rt / (maxRtNat c fs x.file : ℚ) ∧ x.rt / (maxRtNat c fs x.file : ℚ) ≤ 1 := by
  have hpos : (0 : ℚ) < (maxRtNat c fs x.file : ℚ) := Nat.cast_pos.mpr (maxRtNat_pos c fs x.file)
  exact ⟨div_nonneg h0 hpos.le,
    (div_le_one hpos).mpr ((hc _).trans (Nat.cast_le.mpr (le_maxRtNat c fs x hx)))⟩

section matrix
variable {rows : List (Row ℚ)} {f g : Nat}

/-- over ℚ the `is_finite` filter keeps every entry -/
theorem pairs_rat : pairs rows f = rows.filterMap fun r => ((r.xs[f]?).getD none).map fun x => (x, r.y) := by
  unfold pairs
  congr 1; funext r
  rcases r.xs[f]? with _ | _ | x <;> rfl

theorem mem_pairs {q : ℚ × ℚ} :
    q ∈ pairs rows f ↔ ∃ r ∈ rows, r.xs[f]? = some (some q.1) ∧ r.y = q.2 := by
  rw [pairs_rat, List.mem_filterMap]
  refine exists_congr fun r => and_congr_right fun _ => ?_
  rcases r.xs[f]? with _ | _ | x <;> simp [Prod.ext_iff]

theorem pairs_affine {a b : ℚ}
    (h : ∀ r ∈ rows, (r.xs[g]?).getD none = ((r.xs[f]?).getD none).map (fun x => a * x + b)) :
    pairs rows g = affX a b (pairs rows f) := by
  rw [pairs_rat, pairs_rat, affX, List.map_filterMap]
  refine List.filterMap_congr fun r hr => ?_
  rw [h r hr]
  cases (r.xs[f]?).getD none <;> rfl

/-- "Exact affine transforms receive equal aligned times", on the RT matrix: if file `g` has an entry
    exactly where file `f` has one and that entry is `a·x + b`, then with ε = 0 the two files' alignments
    send corresponding normalised retention times to the same aligned time. -/
theorem alignment_equivariant (ceilNat : ℚ → Nat) (fs : List (Feat ℚ)) (rows : List (Row ℚ))
    (f g : Nat) (a b x : ℚ) (ha : a ≠ 0)
    (h : ∀ r ∈ rows, (r.xs[g]?).getD none = ((r.xs[f]?).getD none).map (fun x => a * x + b))
    (hS : sxx (pairs rows f) ≠ 0) :
    let af := alignFile id ceilNat 0 fs rows f
    let ag := alignFile id ceilNat 0 fs rows g
    ag.2.1 * (a * x + b) + ag.2.2 = af.2.1 * x + af.2.2 := by
  show (fit 0 (pairs rows g)).1 * _ + (fit 0 (pairs rows g)).2 = _
  rw [pairs_affine h]
  exact ols_equivariant _ a b x ha hS

theorem mem_sharedPts {t : ℚ × ℚ × ℚ} :
    t ∈ sharedPts rows f g ↔
      ∃ r ∈ rows, r.xs[f]? = some (some t.1) ∧ r.xs[g]? = some (some t.2.1) ∧ r.y = t.2.2 := by
  unfold sharedPts
  rw [List.mem_filterMap]
  refine exists_congr fun r => and_congr_right fun _ => ?_
  rcases r.xs[f]? with _ | _ | x <;> rcases r.xs[g]? with _ | _ | x' <;> simp [Prod.ext_iff]

theorem affineImage_spec {a b : ℚ} (h : affineImage rows f g = some (a, b)) :
    unsharedRows rows f g = 0 ∧ a ≠ 0 ∧ (∀ t ∈ sharedPts rows f g, t.2.1 = a * t.1 + b) ∧
      ∃ t₀ ∈ sharedPts rows f g, ∃ t₁ ∈ sharedPts rows f g, t₁.1 ≠ t₀.1 := by
  unfold affineImage at h
  split at h
  · cases h
  rename_i hun
  split at h
  · cases h
  rename_i x0 x0' y0 rest hsp
  split at h
  · cases h
  rename_i x1 x1' y1 hfind
  simp only at h
  split at h
  · rename_i hc
    obtain ⟨rfl, rfl⟩ := Prod.mk.inj (Option.some.inj h)
    simp only [Bool.and_eq_true, bne_iff_ne, ne_eq, List.all_eq_true, beq_iff_eq] at hc
    refine ⟨by simpa using hun, hc.1, fun t ht => ?_, ?_⟩
    · rw [hsp] at ht
      rcases List.mem_cons.mp ht with rfl | ht
      · exact hc.2 (x0, x0', 0) List.mem_cons_self
      · exact hc.2 t (List.mem_cons_of_mem _ ht)
    · rw [hsp]
      exact ⟨_, List.mem_cons_self, _, List.mem_cons_of_mem _ (List.mem_of_find?_eq_some hfind),
        by simpa using List.find?_some hfind⟩
  · cases h

/-- The detector of the executable spec clause `not_equivariant` is sound: when it reports that file `g`
    is the affine image `a·x + b` of file `f`, the hypothesis of `alignment_equivariant` holds. -/
theorem affineImage_sound (rows : List (Row ℚ)) (f g : Nat) (a b : ℚ)
    (h : affineImage rows f g = some (a, b)) :
    a ≠ 0 ∧ ∀ r ∈ rows, (r.xs[g]?).getD none = ((r.xs[f]?).getD none).map (fun x => a * x + b) := by
  obtain ⟨hun, ha, hall, _⟩ := affineImage_spec h
  refine ⟨ha, fun r hr => ?_⟩
  have hns := List.filter_eq_nil_iff.mp (List.length_eq_zero_iff.mp hun) r hr
  rcases hf : r.xs[f]? with _ | (_ | x) <;> rcases hg : r.xs[g]? with _ | (_ | x') <;>
    simp only [hf, hg] at hns ⊢ <;> try simp at hns <;> try simp
  simpa using hall (x, x', r.y) (mem_sharedPts.mpr ⟨r, hr, hf, hg, rfl⟩)

theorem mem_pairs_of_shared {t : ℚ × ℚ × ℚ} (h : t ∈ sharedPts rows f g) : (t.1, t.2.2) ∈ pairs rows f := by
  obtain ⟨r, hr, hf, _, hy⟩ := mem_sharedPts.mp h
  exact mem_pairs.mpr ⟨r, hr, hf, hy⟩

/-- The executable spec clause `not_equivariant` as a theorem about the model: whenever its detector
    `affineImage` fires for files `f`, `g` of any RT matrix, the exact-arithmetic regressions (same ε in
    both files, as in the code) send `x` and `a·x + b` to aligned times within the bound of
    `equivariant_eps_bound`, which the clause applies (plus a rounding allowance) to the implementation's
    parameters. -/
theorem equivariant_of_affineImage (rows : List (Row ℚ)) (f g : Nat) (a b ε x : ℚ)
    (h : affineImage rows f g = some (a, b)) (hε : 0 ≤ ε) :
    |((fit ε (pairs rows g)).1 * (a * x + b) + (fit ε (pairs rows g)).2)
        - ((fit ε (pairs rows f)).1 * x + (fit ε (pairs rows f)).2)|
      ≤ |(fit 0 (pairs rows f)).1 * (x - sX (pairs rows f) / ((pairs rows f).length : ℚ))|
          * (ε / sxx (pairs rows f) + ε / sxx (pairs rows g)) := by
  obtain ⟨ha, hrows⟩ := affineImage_sound rows f g a b h
  -- the detector has seen two distinct x-values in `f`, hence `Sxx_f > 0`
  obtain ⟨_, _, _, t₀, h₀, t₁, h₁, hne⟩ := affineImage_spec h
  rw [pairs_affine hrows]
  exact equivariant_eps_bound _ ε a b x hε ha
    (sSq_pos_of_ne _ _ (mem_pairs_of_shared h₁) (mem_pairs_of_shared h₀) hne)

end matrix

theorem fmin_rat (a b : ℚ) : fmin a b = min a b := by
  unfold fmin
  simp only [isNaN, Bool.false_eq_true, if_false]
  rcases lt_or_ge b a with h | h
  · rw [if_pos h, min_eq_right h.le]
  · rw [if_neg (not_lt.mpr h), min_eq_left h]

def rtsOf (thr : ℚ) (fs : List (Feat ℚ)) (p f : Nat) : List ℚ :=
  (fs.filter (fun x => confident thr x && x.pep == p && x.file == f)).map (·.rt)

section features
variable {c : ℚ → Nat} {thr : ℚ} {fs : List (Feat ℚ)} {n p f g : Nat}

theorem mem_rtsOf {r : ℚ} :
    r ∈ rtsOf thr fs p f ↔ ∃ x ∈ fs, confident thr x = true ∧ x.pep = p ∧ x.file = f ∧ x.rt = r := by
  simp only [rtsOf, List.mem_map, List.mem_filter, Bool.and_eq_true, beq_iff_eq, and_assoc]

theorem minRt_eq_min? : minRt thr fs p f = (rtsOf thr fs p f).min? := by
  unfold minRt rtsOf
  generalize fs.filter _ = l
  cases l with
  | nil => rfl
  | cons x l =>
    show l.foldl _ (some x.rt) = some ((l.map (·.rt)).foldl min x.rt)
    generalize x.rt = m
    induction l generalizing m with
    | nil => rfl
    | cons y l ih =>
      rw [List.map_cons, List.foldl_cons, List.foldl_cons, ← fmin_rat]
      exact ih _

theorem minRt_eq_none_iff : minRt thr fs p f = none ↔ rtsOf thr fs p f = [] := by
  rw [minRt_eq_min?, List.min?_eq_none_iff]

theorem minRt_eq_some_iff {m : ℚ} :
    minRt thr fs p f = some m ↔ m ∈ rtsOf thr fs p f ∧ ∀ r ∈ rtsOf thr fs p f, m ≤ r := by
  rw [minRt_eq_min?, List.min?_eq_some_iff]

/-- `mean_rt_by_file` keeps, despite its name, a peptide's minimal confident RT per file; an increasing
    affine map commutes with that minimum. -/
theorem minRt_affine (thr : ℚ) (fs : List (Feat ℚ)) (p f g : Nat) (a b : ℚ) (ha : 0 < a)
    (h : ∀ r, r ∈ rtsOf thr fs p g ↔ ∃ r0 ∈ rtsOf thr fs p f, r = a * r0 + b) :
    minRt thr fs p g = (minRt thr fs p f).map (fun r => a * r + b) := by
  cases hf : minRt thr fs p f with
  | none =>
    rw [minRt_eq_none_iff] at hf
    rw [Option.map_none, minRt_eq_none_iff, List.eq_nil_iff_forall_not_mem]
    intro r hr
    obtain ⟨r0, hr0, _⟩ := (h r).mp hr
    rw [hf] at hr0
    cases hr0
  | some m =>
    obtain ⟨hm, hlb⟩ := minRt_eq_some_iff.mp hf
    rw [Option.map_some, minRt_eq_some_iff]
    refine ⟨(h _).mpr ⟨m, hm, rfl⟩, fun r hr => ?_⟩
    obtain ⟨r0, hr0, rfl⟩ := (h r).mp hr
    exact add_le_add_left (mul_le_mul_of_nonneg_left (hlb r0 hr0) ha.le) b

theorem rowOf_xs {r : Row ℚ} (h : rowOf c thr fs n p = some r) :
    r.xs = ((List.range n).map fun f => (minRt thr fs p f).map (fun x => x / (maxRtNat c fs f : ℚ))) ∧
    r.y = meanOf (r.xs.filterMap id) := by
  unfold rowOf at h
  simp only at h
  split at h
  · cases h
    exact ⟨rfl, by simp [isFinite]⟩
  · cases h

theorem mem_rtRows {r : Row ℚ} (h : r ∈ rtRows c thr fs n) : ∃ p, rowOf c thr fs n p = some r := by
  obtain ⟨p, _, hp⟩ := List.mem_filterMap.mp h
  exact ⟨p, hp⟩

theorem row_entry {r : Row ℚ} (h : rowOf c thr fs n p = some r) (hf : f < n) :
    r.xs[f]? = some ((minRt thr fs p f).map (fun x => x / (maxRtNat c fs f : ℚ))) := by
  rw [(rowOf_xs h).1]
  simp [hf]

/-- dividing each file by its own scale turns `rt ↦ a·rt + b` into `x ↦ (a·M_f/M_g)·x + b/M_g` -/
theorem div_scale_affine (a b r Mf Mg : ℚ) (hMf : Mf ≠ 0) :
    (a * r + b) / Mg = a * Mf / Mg * (r / Mf) + b / Mg := by
  rw [div_mul_div_comm, mul_right_comm, mul_div_mul_right _ _ hMf, add_div]

theorem rows_affine_raw (hf : f < n) (hg : g < n) {a b : ℚ} (ha : 0 < a)
    (h : ∀ p r, r ∈ rtsOf thr fs p g ↔ ∃ r0 ∈ rtsOf thr fs p f, r = a * r0 + b) :
    ∀ r ∈ rtRows c thr fs n, (r.xs[g]?).getD none =
      ((r.xs[f]?).getD none).map (fun x =>
        (a * (maxRtNat c fs f : ℚ) / (maxRtNat c fs g : ℚ)) * x
          + b / (maxRtNat c fs g : ℚ)) := by
  intro r hr
  obtain ⟨p, hp⟩ := mem_rtRows hr
  rw [row_entry hp hf, row_entry hp hg,
    minRt_affine thr fs p f g a b ha (h p)]
  have hMf : (maxRtNat c fs f : ℚ) ≠ 0 := Nat.cast_ne_zero.mpr (maxRtNat_pos c fs f).ne'
  cases minRt thr fs p f with
  | none => rfl
  | some m => exact congrArg some (div_scale_affine a b m _ _ hMf)

theorem alignedRt_comm (rt mx s i : ℚ) : alignedRt rt mx s i = s * (rt / mx) + i :=
  congrArg (· + i) (mul_comm _ _)

/-- `alignment_equivariant_raw` with the code's regulariser ε in both files: the two aligned times differ
    by at most `|slope₀·(rt/M_f − x̄_f)| · ε · (1/Sxx_f + 1/Sxx_g)`. -/
theorem alignment_equivariant_raw_eps (c : ℚ → Nat) (thr ε : ℚ) (fs : List (Feat ℚ)) (n f g : Nat)
    (hf : f < n) (hg : g < n) (a b : ℚ) (ha : 0 < a) (hε : 0 ≤ ε)
    (h : ∀ p r, r ∈ rtsOf thr fs p g ↔ ∃ r0 ∈ rtsOf thr fs p f, r = a * r0 + b)
    (hS : 0 < sxx (pairs (rtRows c thr fs n) f)) (rt : ℚ) :
    let rows := rtRows c thr fs n
    let af := alignFile id c ε fs rows f
    let ag := alignFile id c ε fs rows g
    |alignedRt (a * rt + b) ((ag.1 : Nat) : ℚ) ag.2.1 ag.2.2 - alignedRt rt ((af.1 : Nat) : ℚ) af.2.1 af.2.2|
      ≤ |(fit 0 (pairs rows f)).1 * (rt / ((af.1 : Nat) : ℚ) - sX (pairs rows f) / ((pairs rows f).length : ℚ))|
          * (ε / sxx (pairs rows f) + ε / sxx (pairs rows g)) := by
  intro rows af ag
  have hMf : 0 < (maxRtNat c fs f : ℚ) := Nat.cast_pos.mpr (maxRtNat_pos c fs f)
  have hMg : 0 < (maxRtNat c fs g : ℚ) := Nat.cast_pos.mpr (maxRtNat_pos c fs g)
  have key := equivariant_eps_bound (pairs rows f) ε _ (b / (maxRtNat c fs g : ℚ))
    (rt / (maxRtNat c fs f : ℚ)) hε (div_pos (mul_pos ha hMf) hMg).ne' hS
  rw [← pairs_affine (rows_affine_raw hf hg ha h)] at key
  rw [alignedRt_comm, alignedRt_comm, div_scale_affine a b rt _ _ hMf.ne']
  exact key

/-- "Files whose retention times are exact affine transforms of one another receive equal aligned times",
    on raw retention times (ε = 0): if, for every peptide, the confident-target RTs of file `g` are the
    image `a·rt + b` (`a > 0`) of those of file `f` (multiplicities, order, decoys and non-confident PSMs
    are free; the latter only move the files' `max_rt`), a PSM at `rt` in `f` and one at `a·rt + b` in `g`
    get the same aligned time. Nothing is assumed of the two `max_rt`: the `ceil` in `max_rt_by_file`
    only changes the affine map between the normalised columns (`div_scale_affine`). -/
theorem alignment_equivariant_raw (c : ℚ → Nat) (thr : ℚ) (fs : List (Feat ℚ)) (n f g : Nat)
    (hf : f < n) (hg : g < n) (a b : ℚ) (ha : 0 < a)
    (h : ∀ p r, r ∈ rtsOf thr fs p g ↔ ∃ r0 ∈ rtsOf thr fs p f, r = a * r0 + b)
    (hS : sxx (pairs (rtRows c thr fs n) f) ≠ 0) (rt : ℚ) :
    let rows := rtRows c thr fs n
    let af := alignFile id c 0 fs rows f
    let ag := alignFile id c 0 fs rows g
    alignedRt (a * rt + b) ((ag.1 : Nat) : ℚ) ag.2.1 ag.2.2 = alignedRt rt ((af.1 : Nat) : ℚ) af.2.1 af.2.2 := by
  have key := alignment_equivariant_raw_eps c thr 0 fs n f g hf hg a b ha le_rfl h
    ((sSq_nonneg _ _).lt_of_ne' hS) rt
  simp only [zero_div, add_zero, mul_zero, abs_nonpos_iff, sub_eq_zero] at key
  exact key

theorem filterMap_range_single {β : Type} (F : Nat → Option β) (f n : Nat) (x : β) (hfn : f < n)
    (hf : F f = some x) (hg : ∀ g < n, g ≠ f → F g = none) : (List.range n).filterMap F = [x] := by
  induction n with
  | zero => cases hfn
  | succ n ih =>
    rw [List.range_succ, List.filterMap_append]
    rcases Nat.lt_succ_iff_lt_or_eq.mp hfn with h | rfl
    · rw [ih h fun g hg' => hg g (Nat.lt_succ_of_lt hg'),
        List.filterMap_cons_none (hg n n.lt_succ_self h.ne')]
      rfl
    · rw [List.filterMap_eq_nil_iff.mpr fun g hg' =>
        hg g (Nat.lt_succ_of_lt (List.mem_range.mp hg')) (List.mem_range.mp hg').ne,
        List.filterMap_cons_some hf]
      rfl

theorem meanOf_singleton (z : ℚ) : meanOf [z] = z := by
  simp [meanOf, sumFrom]

/-- the row's cross-run mean is its only entry -/
theorem pairs_diag
    (hown : ∀ p g, g < n → g ≠ f → minRt thr fs p f ≠ none → minRt thr fs p g = none) :
    ∀ q ∈ pairs (rtRows c thr fs n) f, q.2 = q.1 := by
  intro q hq
  obtain ⟨r, hr, hx, hy⟩ := mem_pairs.mp hq
  obtain ⟨p, hp⟩ := mem_rtRows hr
  obtain ⟨hxs, hry⟩ := rowOf_xs hp
  have hfn : f < n := by
    by_contra hge
    rw [hxs, List.getElem?_eq_none (by simpa using hge)] at hx
    cases hx
  rw [row_entry hp hfn] at hx
  have hfm : r.xs.filterMap id = [q.1] := by
    rw [hxs, List.filterMap_map]
    refine filterMap_range_single _ f n q.1 hfn (Option.some.inj hx) fun g hg hgf => ?_
    show (minRt thr fs p g).map _ = none
    rw [hown p g hg hgf fun h0 => by rw [h0] at hx; cases hx]
    rfl
  rw [← hy, hry, hfm, meanOf_singleton]

theorem monotone_of_diag {ε : ℚ} {rows : List (Row ℚ)} (hε : 0 < ε) (hd : ∀ q ∈ pairs rows f, q.2 = q.1)
    {rt rt' : ℚ} (h : rt ≤ rt') :
    let a := alignFile id c ε fs rows f
    (0 ≤ a.2.1 ∧ a.2.1 ≤ 1) ∧
      alignedRt rt (a.1 : ℚ) a.2.1 a.2.2 ≤ alignedRt rt' (a.1 : ℚ) a.2.1 a.2.2 :=
  have hs := own_file_slope _ ε hε hd
  ⟨hs, aligned_monotone _ _ _ _ _ (Nat.cast_pos.mpr (maxRtNat_pos c fs f)) hs.1 h⟩

/-- "A file on its own is mapped monotonically", for a single-file run: whatever the PSMs, every row of
    the one-column RT matrix has `y = x`, so the fitted slope lies in `[0, 1]` and
    `rt ↦ (rt / max_rt)·slope + intercept` is monotone. Exact arithmetic. -/
theorem single_file_monotone (c : ℚ → Nat) (thr ε : ℚ) (fs : List (Feat ℚ)) (hε : 0 < ε)
    (rt rt' : ℚ) (h : rt ≤ rt') :
    let a := alignFile id c ε fs (rtRows c thr fs 1) 0
    (0 ≤ a.2.1 ∧ a.2.1 ≤ 1) ∧
      alignedRt rt ((a.1 : Nat) : ℚ) a.2.1 a.2.2 ≤ alignedRt rt' ((a.1 : Nat) : ℚ) a.2.1 a.2.2 :=
  monotone_of_diag hε (pairs_diag fun _ _ hg hne => absurd (Nat.lt_one_iff.mp hg) hne) h

/-- "A file on its own is mapped monotonically", inside a multi-file run: if no peptide with a confident
    target PSM in file `f` also has one in another file (`hown`, on the raw feature list), every row of
    the RT matrix with an entry for `f` has no other entry, so the fitted slope of `f` lies in `[0, 1]`
    and `rt ↦ aligned_rt` is monotone on file `f`. -/
theorem own_file_monotone (c : ℚ → Nat) (thr ε : ℚ) (fs : List (Feat ℚ)) (n f : Nat) (hε : 0 < ε)
    (hown : ∀ x ∈ fs, ∀ y ∈ fs, confident thr x = true → confident thr y = true →
      x.file = f → y.file ≠ f → x.pep ≠ y.pep)
    (rt rt' : ℚ) (h : rt ≤ rt') :
    let a := alignFile id c ε fs (rtRows c thr fs n) f
    (0 ≤ a.2.1 ∧ a.2.1 ≤ 1) ∧
      alignedRt rt ((a.1 : Nat) : ℚ) a.2.1 a.2.2 ≤ alignedRt rt' ((a.1 : Nat) : ℚ) a.2.1 a.2.2 := by
  refine monotone_of_diag hε (pairs_diag fun p g _ hgf hne => ?_) h
  obtain ⟨m, hm⟩ := Option.ne_none_iff_exists'.mp hne
  obtain ⟨x, hx, hxc, hxp, hxf, _⟩ :=
    mem_rtsOf.mp (minRt_eq_some_iff.mp hm).1
  rw [minRt_eq_none_iff, List.eq_nil_iff_forall_not_mem]
  intro r' hr'
  obtain ⟨y, hy, hyc, hyp, hyf, _⟩ := mem_rtsOf.mp hr'
  exact hown x hx y hy hxc hyc hxf (hyf ▸ hgf) (hxp.trans hyp.symm)

end features

/-- `ols_equivariant` is not vacuous: three points, `x' = 2x + 3` -/
example : sxx [((1 : ℚ), (2 : ℚ)), (2, 3), (4, 4)] ≠ 0 ∧
    (fit 0 (affX 2 3 [((1 : ℚ), (2 : ℚ)), (2, 3), (4, 4)])).1 * (2 * 4 + 3)
      + (fit 0 (affX 2 3 [((1 : ℚ), (2 : ℚ)), (2, 3), (4, 4)])).2 = 57 / 14 := by
  decide +kernel

/-- … and the un-transformed fit gives the same value at `x = 4` -/
example : (fit 0 [((1 : ℚ), (2 : ℚ)), (2, 3), (4, 4)]).1 * 4 + (fit 0 [((1 : ℚ), (2 : ℚ)), (2, 3), (4, 4)]).2
    = 57 / 14 := by
  decide +kernel

/-- `own_file_slope`: x = y ∈ {1/4, 1/2, 1}, ε = 1/100 -/
example : (fit (1 / 100) [((1 / 4 : ℚ), (1 / 4 : ℚ)), (1 / 2, 1 / 2), (1, 1)]).1 = 175 / 181 := by
  decide +kernel

/-- `clamp_delta`: a "crazy" prediction 7/2 is stored as 1, delta = |1/4 − 1| -/
example : predictOut (fun x : ℚ => x) (fun x : ℚ => |x|) 0 1 (7 / 2) (1 / 4) = (1, 3 / 4) := by
  decide +kernel

/-- `params_finite` is not vacuous and the guards are what makes it true: a file with no confident PSM
    has an empty regression, whose raw slope is `0/0` (non-finite); the guarded pair is `(1, 0)` -/
example : (fit (⟨some (1 / 100000000)⟩ : XQ) []).1.val = none ∧
    ((guardFinite (fit (⟨some (1 / 100000000)⟩ : XQ) [])).1.val = some 1 ∧
     (guardFinite (fit (⟨some (1 / 100000000)⟩ : XQ) [])).2.val = some 0) :=
  ⟨rfl, rfl, rfl⟩

/-- why the repair of `max_rt_by_file` matters: with the old `max_rt = 0` the aligned RT of a PSM at
    `rt = 0` is `0/0`, non-finite in `XQ` -/
example : (alignedRt (⟨some 0⟩ : XQ) ((0 : Nat) : XQ) ⟨some 1⟩ ⟨some 0⟩).val = none := by
  rfl

/-- … while the repaired code (`maxRtNat` of an all-zero file is 1) gives a finite value, end to end -/
example :
    (globalAlignment (α := XQ) id (fun _ => 0) ⟨some (1 / 100)⟩ ⟨some (1 / 100000000)⟩
      [⟨0, 7, 1, ⟨some 0⟩, ⟨some 0⟩⟩] 1).map (fun al => al.map fun a => (a.1, a.2.1.val, a.2.2.val))
      = some [(1, some 1, some 0)] := by
  decide +kernel

/-- `single_file_monotone` / `scale_unit`: RTs 10, 20, 40 (max_rt = 40, x = 1/4, 1/2, 1), ε = 1/100 -/
example :
    (alignFile id (fun r : ℚ => (Rat.ceil r).toNat) (1 / 100)
        [⟨0, 0, 1, 0, 10⟩, ⟨0, 1, 1, 0, 20⟩, ⟨0, 2, 1, 0, 40⟩]
        (rtRows (fun r : ℚ => (Rat.ceil r).toNat) (1 / 100)
          [⟨0, 0, 1, 0, 10⟩, ⟨0, 1, 1, 0, 20⟩, ⟨0, 2, 1, 0, 40⟩] 1) 0)
      = (40, 175 / 181, 7 / 12 - 175 / 181 * (7 / 12)) := by
  decide +kernel

/-- `fit_finite_of_nonempty`: a one-point regression (fewer PSMs than parameters) is already finite -/
example : ((fit (XQ.ofQ (1 / 100)) (liftPts [(1 / 2, 1 / 3)])).1.val,
    (fit (XQ.ofQ (1 / 100)) (liftPts [(1 / 2, 1 / 3)])).2.val) = (some 0, some (1 / 3)) := by
  decide +kernel

/-- `equivariant_of_affineImage`: the detector fires on a concrete two-file matrix (x' = 2x + 1/8) -/
example : affineImage
    [⟨0, [some (1 / 4), some (5 / 8)], 0⟩, ⟨1, [some (1 / 2), some (9 / 8)], 0⟩, ⟨2, [some 1, some (17 / 8)], 0⟩]
    0 1 = some (2, 1 / 8) := by
  decide +kernel

/-- `alignment_equivariant_raw`: file 1 = 2·rt + 3 of file 0 (RTs 10, 20, 40 ↦ 23, 43, 83; max_rt 40 and
    83 are not in the ratio 2, and it does not matter): the PSMs at 20 and at 43 get the same aligned time -/
example :
    let fs : List (Feat ℚ) := [⟨0, 0, 1, 0, 10⟩, ⟨0, 1, 1, 0, 20⟩, ⟨0, 2, 1, 0, 40⟩,
                               ⟨1, 0, 1, 0, 23⟩, ⟨1, 1, 1, 0, 43⟩, ⟨1, 2, 1, 0, 83⟩]
    let c : ℚ → Nat := fun r => (Rat.ceil r).toNat
    let rows := rtRows c (1 / 100) fs 2
    let af := alignFile id c 0 fs rows 0
    let ag := alignFile id c 0 fs rows 1
    (af.1, ag.1) = (40, 83) ∧
    alignedRt (2 * 20 + 3) ((ag.1 : Nat) : ℚ) ag.2.1 ag.2.2 = alignedRt 20 ((af.1 : Nat) : ℚ) af.2.1 af.2.2 := by
  decide +kernel

/-- `own_file_monotone`: two files with disjoint peptides; file 0 keeps the slope 175/181 of the
    single-file run above -/
example :
    let fs : List (Feat ℚ) := [⟨0, 0, 1, 0, 10⟩, ⟨0, 1, 1, 0, 20⟩, ⟨0, 2, 1, 0, 40⟩,
                               ⟨1, 5, 1, 0, 7⟩, ⟨1, 6, 1, 0, 9⟩]
    let c : ℚ → Nat := fun r => (Rat.ceil r).toNat
    (alignFile id c (1 / 100) fs (rtRows c (1 / 100) fs 2) 0).2.1 = 175 / 181 := by
  decide +kernel

/-- `diag_fit_eq` / `fit_closed_form` on x = y ∈ {1/4, 1/2, 1}, ε = 1/100 -/
example : (fit (1 / 100) [((1 / 4 : ℚ), (1 / 4 : ℚ)), (1 / 2, 1 / 2), (1, 1)]) = (175 / 181, 7 / 12 * (1 - 175 / 181)) := by
  decide +kernel

end Sage.C20
