import SageModel.Lemmas.C14RQ
import SageModel.Lemmas.C14Lift
import Mathlib.Algebra.Order.Field.Basic
import Mathlib.Tactic.Ring

/-!
# C14 — Posterior error probabilities are well-formed Bayes ratios of kernel densities

Property text: *The posterior-error model fitted to target and decoy scores returns, for every
score inside the fitted range, a value in [0, 1] that never increases as the score increases, is
piecewise-linear between its grid points, and at the grid points equals the running maximum
(taken from the high-score end) of the Bayes ratio pi·f_decoy / (pi·f_decoy + (1−pi)·f_target) of
Gaussian kernel density estimates with the rule-of-thumb bandwidth. Reported PSM posterior
errors are the log10 of that value, finite for every PSM.*

The theorems are about the definitions of `SageModel/Model/C14.lean`, which are generic in the number
type, at three types: exact rationals (`Rat`: range, monotonicity, interpolation, envelope, agreement with
the textbook formulas, for every sample, bin count and bandwidth factor); `XQ = Option Rat` (`none` =
non-finite: when a bin is finite, and exactly when it is not); `RQ rnd` (every operation rounded by an
abstract rounding: the range statements survive). `exp`, `powf`, `sqrt`, `π` are arbitrary parameters
constrained only by the hypotheses shown. IEEE arithmetic itself (overflow, the concrete rounding) is not
modelled. (Before /repo 09cd064 the unclamped f64 interpolation weight could
round outside `[0,1]` next to a grid point and give a tiny negative PEP; the model mirrors the
repaired code, whose weight is clamped — `interp_range_all`.)
-/

namespace Sage.C14

section generic
variable {α : Type}

theorem foldExt_cons (f : α → α → α) (x : α) (xs : List α) : foldExt f (x :: xs) = some (xs.foldl f x) :=
  List.foldl_hom some fun _ _ => rfl

theorem binHi_le (e : Estimator α) (lo : Nat) : binHi e lo ≤ e.bins.length - 1 := Nat.min_le_left _ _

theorem binHi_le_succ (e : Estimator α) (lo : Nat) : binHi e lo ≤ lo + 1 := Nat.min_le_right _ _

theorem le_binHi {e : Estimator α} {lo : Nat} (h : lo ≤ e.bins.length - 1) : lo ≤ binHi e lo :=
  Nat.le_min.mpr ⟨h, Nat.le_succ lo⟩

theorem classOf_lengths (scores : List α) (decoys : List Bool) :
    (classOf true scores decoys).length + (classOf false scores decoys).length ≤ scores.length := by
  unfold classOf
  -- the two filters split the zipped list: `· == false` is the negation of `· == true`
  have e : (fun p : α × Bool => p.2 == false) = fun p => !(p.2 == true) :=
    funext fun ⟨_, b⟩ => by cases b <;> rfl
  rw [List.length_map, List.length_map, e, ← List.length_eq_length_filter_add, List.length_zip]
  exact Nat.min_le_left _ _

variable [NumExt α]

theorem envGo_length (init : α) (l : List α) : (envGo init l).1.length = l.length := by
  induction l with
  | nil => rfl
  | cons x xs ih => simp only [envGo, List.length_cons, ih]

theorem envelope_eq_some {raw env : List α} :
    envelope raw = some env ↔ ∃ init, raw.getLast? = some init ∧ (envGo init raw).1 = env := by
  have h : envelope raw = raw.getLast?.map fun init => (envGo init raw).1 := by
    unfold envelope
    cases raw.getLast? <;> rfl
  rw [h, Option.map_eq_some_iff]

theorem envelope_length {raw env : List α} (h : envelope raw = some env) : env.length = raw.length := by
  obtain ⟨init, -, rfl⟩ := envelope_eq_some.mp h
  exact envGo_length init raw

theorem envGo_forall {P : α → Prop} (hP : ∀ a b, P a → P b → P (fmax a b)) {init : α} (hi : P init)
    {l : List α} (hl : ∀ x ∈ l, P x) : P (envGo init l).2 ∧ ∀ y ∈ (envGo init l).1, P y := by
  induction l with
  | nil => exact ⟨hi, fun _ hy => absurd hy List.not_mem_nil⟩
  | cons x xs ih =>
    obtain ⟨hx, hxs⟩ := List.forall_mem_cons.mp hl
    obtain ⟨hacc, hall⟩ := ih hxs
    have hv := hP _ _ hacc hx
    exact ⟨hv, List.forall_mem_cons.mpr ⟨hv, hall⟩⟩

theorem envelope_forall {P : α → Prop} (hP : ∀ a b, P a → P b → P (fmax a b)) {raw env : List α}
    (h : envelope raw = some env) (hraw : ∀ x ∈ raw, P x) : ∀ y ∈ env, P y := by
  obtain ⟨init, hl, rfl⟩ := envelope_eq_some.mp h
  exact (envGo_forall hP (hraw init (List.mem_of_getLast? hl)) hraw).2

theorem exists_envelope {raw : List α} (h : raw ≠ []) : ∃ env, envelope raw = some env :=
  ⟨_, envelope_eq_some.mpr ⟨_, List.getLast?_eq_some_getLast h, rfl⟩⟩

variable [Sub α] [Div α]

theorem binLo_le (e : Estimator α) (s : α) : binLo e s ≤ e.bins.length - 1 := Nat.min_le_left _ _

variable [Add α] [Mul α]

theorem posteriorError_eq (e : Estimator α) (s : α) (hn : e.bins ≠ []) :
    ∃ bl bh, e.bins[binLo e s]? = some bl ∧ e.bins[binHi e (binLo e s)]? = some bh ∧
      posteriorError e s = some (bl + (bh - bl) *
        clamp01 ((s - (ofNat (binLo e s) * e.scoreStep + e.minScore)) / e.scoreStep)) := by
  have hlen : 0 < e.bins.length := List.length_pos_iff.mpr hn
  have h1 : binLo e s < e.bins.length := Nat.lt_of_le_sub_one hlen (binLo_le e s)
  have h2 : binHi e (binLo e s) < e.bins.length := Nat.lt_of_le_sub_one hlen (binHi_le e _)
  refine ⟨_, _, List.getElem?_eq_getElem h1, List.getElem?_eq_getElem h2, ?_⟩
  unfold posteriorError
  simp only [List.getElem?_eq_getElem h1, List.getElem?_eq_getElem h2]

variable [Neg α]

theorem rawBins_length (F : Fns α) (kd kt : Kde α) (π a b : α) (n : Nat) :
    (rawBins F kd kt π a b n).length = n := by
  rw [rawBins, List.length_map, List.length_range]

theorem build_of_range (F : Fns α) {scores : List α} (decoys : List Bool) {nbins : Nat} (adj : α) (mono : Bool)
    {mn mx : α} (hmn : foldExt fmin scores = some mn) (hmx : foldExt fmax scores = some mx) (hn : nbins ≠ 0) :
    build F scores decoys nbins adj mono =
      let step : α := (mx - mn) / ofNat (nbins - 1)
      let raw := rawBins F (Kde.new F (classOf true scores decoys) adj) (Kde.new F (classOf false scores decoys) adj)
        ((ofNat (classOf true scores decoys).length : α) / ofNat scores.length) mn step nbins
      (if mono then envelope raw else some raw).map fun bins => { bins, minScore := mn, scoreStep := step } := by
  unfold build
  simp only [hmn, hmx, if_neg hn]
  cases mono
  · rfl
  · simp only [if_true]
    cases envelope (α := α) _ <;> rfl

theorem build_bins_length {F : Fns α} {scores : List α} {decoys : List Bool} {nbins : Nat} {adj : α} {mono : Bool}
    {e : Estimator α} (h : build F scores decoys nbins adj mono = some e) : e.bins.length = nbins ∧ 0 < nbins := by
  cases hmn : foldExt fmin scores with
  | none => simp [build, hmn] at h
  | some mn =>
    cases hmx : foldExt fmax scores with
    | none => simp [build, hmn, hmx] at h
    | some mx =>
      rcases Nat.eq_zero_or_pos nbins with rfl | hn
      · simp [build, hmn, hmx] at h
      · rw [build_of_range F decoys adj mono hmn hmx hn.ne', Option.map_eq_some_iff] at h
        obtain ⟨bins, hb, rfl⟩ := h
        refine ⟨?_, hn⟩
        cases mono
        · cases hb
          exact rawBins_length ..
        · exact (envelope_length hb).trans (rawBins_length ..)

end generic

@[simp] theorem ofNat_rat (n : Nat) : (ofNat n : Rat) = (n : Rat) := rfl
@[simp] theorem fmax_rat (a b : Rat) : fmax a b = max a b := rfl
@[simp] theorem fmin_rat (a b : Rat) : fmin a b = min a b := rfl
theorem clamp01_rat (x : Rat) : clamp01 x = max 0 (min 1 x) := by
  show (if x < 0 then 0 else if 1 < x then 1 else x) = _
  split_ifs with h0 h1
  · rw [min_eq_right (h0.le.trans zero_le_one), max_eq_left h0.le]
  · rw [min_eq_left h1.le, max_eq_right zero_le_one]
  · rw [min_eq_right (not_lt.1 h1), max_eq_right (not_lt.1 h0)]
theorem clamp01_rat_id {x : Rat} (h0 : 0 ≤ x) (h1 : x ≤ 1) : clamp01 x = x := by
  rw [clamp01_rat, min_eq_right h1, max_eq_right h0]
theorem clamp01_rat_nonneg (x : Rat) : 0 ≤ clamp01 x := (clamp01_rat x).ge.trans' (le_max_left _ _)
theorem clamp01_rat_le_one (x : Rat) : clamp01 x ≤ 1 :=
  (clamp01_rat x).le.trans (max_le zero_le_one (min_le_left _ _))
theorem clamp01_rat_mono {x y : Rat} (h : x ≤ y) : clamp01 x ≤ clamp01 y := by
  rw [clamp01_rat, clamp01_rat]
  exact max_le_max le_rfl (min_le_min le_rfl h)
@[simp] theorem floorNat_rat (x : Rat) : floorNat x = x.floor.toNat := rfl

theorem ratio_mem {x y : Rat} (hx : 0 ≤ x) (hy : 0 ≤ y) (h : 0 < y + x) : 0 ≤ x / (y + x) ∧ x / (y + x) ≤ 1 :=
  ⟨Rat.div_nonneg hx h.le, (div_le_one h).2 (le_add_of_nonneg_left hy)⟩

theorem ratio_mono {x x' y : Rat} (hy : 0 ≤ y) (hxx : x ≤ x') (h : 0 < y + x) : x / (y + x) ≤ x' / (y + x') := by
  rw [div_le_div_iff₀ h (h.trans_le ((add_le_add_iff_left y).2 hxx)), mul_add, mul_add, mul_comm x' x]
  exact (add_le_add_iff_right _).2 (Rat.mul_le_mul_of_nonneg_right hxx hy)

theorem ratio_anti {x y y' : Rat} (hx : 0 ≤ x) (hyy : y ≤ y') (h : 0 < y + x) : x / (y' + x) ≤ x / (y + x) :=
  div_le_div_of_nonneg_left hx h ((add_le_add_iff_right x).2 hyy)

/-- of the form `x / (y + x)` with `x = fd·π`, `y = ft·(1−π)`: the `ratio_*` lemmas apply -/
theorem bayes_rat (π fd ft : Rat) : bayes π fd ft = fd * π / (ft * (1 - π) + fd * π) := rfl

theorem bayes_den (π fd ft : Rat) : ft * (1 - π) + fd * π = π * fd + (1 - π) * ft := by
  rw [mul_comm fd, mul_comm ft, add_comm]

theorem bayes_mem {π fd ft : Rat} (hπ0 : 0 ≤ π) (hπ1 : π ≤ 1) (hd : 0 ≤ fd) (ht : 0 ≤ ft)
    (hpos : 0 < ft * (1 - π) + fd * π) : 0 ≤ bayes π fd ft ∧ bayes π fd ft ≤ 1 :=
  ratio_mem (Rat.mul_nonneg hd hπ0) (Rat.mul_nonneg ht (sub_nonneg.2 hπ1)) hpos

/-- **C14.bayes_range** — the Bayes ratio `π·fd / (π·fd + (1−π)·ft)` as the code computes it is in
    `[0,1]` whenever the densities are non-negative, `π` is a probability and the denominator is
    positive. -/
theorem bayes_range (π fd ft : Rat) (hπ0 : 0 ≤ π) (hπ1 : π ≤ 1) (hd : 0 ≤ fd) (ht : 0 ≤ ft)
    (hpos : 0 < π * fd + (1 - π) * ft) : 0 ≤ bayes π fd ft ∧ bayes π fd ft ≤ 1 :=
  bayes_mem hπ0 hπ1 hd ht (by rwa [bayes_den])

/-- **C14.bayes_monotone** — for a probability `π`, non-negative densities and a positive denominator, more
decoy density at a score never lowers its posterior error and more target density never raises it. -/
theorem bayes_monotone (π fd fd' ft ft' : Rat) (hπ0 : 0 ≤ π) (hπ1 : π ≤ 1) (hd : 0 ≤ fd) (hdd : fd ≤ fd')
    (ht : 0 ≤ ft) (htt : ft ≤ ft') (hpos : 0 < π * fd + (1 - π) * ft) :
    bayes π fd ft ≤ bayes π fd' ft ∧ bayes π fd ft' ≤ bayes π fd ft := by
  have hq : 0 ≤ 1 - π := sub_nonneg.2 hπ1
  have h : 0 < ft * (1 - π) + fd * π := by rwa [bayes_den]
  exact ⟨ratio_mono (Rat.mul_nonneg ht hq) (Rat.mul_le_mul_of_nonneg_right hdd hπ0) h,
    ratio_anti (Rat.mul_nonneg hd hπ0) (Rat.mul_le_mul_of_nonneg_right htt hq) h⟩

/-- the code's formula is the textbook one -/
theorem bayes_eq_spec (π fd ft : Rat) : bayes π fd ft = specBayes π fd ft := by
  rw [bayes_rat, bayes_den, mul_comm fd]
  rfl

/-- `π = #decoys / #scores` is a probability -/
theorem pi_range (d n : Nat) (h : d ≤ n) (hn : 0 < n) :
    0 ≤ (ofNat d : Rat) / ofNat n ∧ (ofNat d : Rat) / ofNat n ≤ 1 := by
  have hn' : (0 : Rat) < n := Rat.natCast_pos.2 hn
  exact ⟨Rat.div_nonneg Rat.natCast_nonneg hn'.le, (div_le_one hn').2 (Rat.natCast_le_natCast.2 h)⟩

example : bayes (1/2 : Rat) 1 3 = 1/4 := by decide +kernel
example : (0:Rat) ≤ bayes (1/2) 1 3 ∧ bayes (1/2 : Rat) 1 3 ≤ 1 :=
  bayes_range _ _ _ (by decide +kernel) (by decide +kernel) zero_le_one (by decide +kernel) (by decide +kernel)

theorem envGo_acc (init : Rat) (l : List Rat) : (envGo init l).2 = l.foldr (fun x acc => max acc x) init := by
  induction l with
  | nil => rfl
  | cons x xs ih => simp only [envGo, List.foldr_cons, fmax_rat, ih]

theorem envGo_get (init : Rat) (l : List Rat) (i : Nat) (h : i < l.length) :
    (envGo init l).1[i]? = some ((l.drop i).foldr (fun x acc => max acc x) init) := by
  induction l generalizing i with
  | nil => exact absurd h (Nat.not_lt_zero i)
  | cons x xs ih =>
    cases i with
    | zero => exact congrArg (fun a => some (fmax a x)) (envGo_acc init xs)
    | succ i => exact ih i (Nat.lt_of_succ_lt_succ h)

/-- `(x :: l).max?` unfolds to `some (l.foldl max x)` -/
theorem foldl_max_spec (x : Rat) (l : List Rat) :
    l.foldl max x ∈ x :: l ∧ ∀ y ∈ x :: l, y ≤ l.foldl max x :=
  List.max?_eq_some_iff.mp rfl

theorem foldr_max_ge_init (init : Rat) (l : List Rat) : init ≤ l.foldr (fun x acc => max acc x) init := by
  rw [← List.foldl_reverse]
  exact (foldl_max_spec init l.reverse).2 _ List.mem_cons_self

theorem listMax_spec {l : List Rat} (h : l ≠ []) : ∃ m, listMax l = some m ∧ m ∈ l ∧ ∀ y ∈ l, y ≤ m := by
  cases l with
  | nil => exact absurd rfl h
  | cons x xs => exact ⟨_, rfl, foldl_max_spec x xs⟩

theorem foldr_max_last_spec {l : List Rat} {init : Rat} (h : l.getLast? = some init) :
    l.foldr (fun x acc => max acc x) init ∈ l ∧ ∀ y ∈ l, y ≤ l.foldr (fun x acc => max acc x) init := by
  obtain ⟨h1, h2⟩ := foldl_max_spec init l.reverse
  rw [← List.foldl_reverse]
  refine ⟨?_, fun y hy => h2 y (List.mem_cons_of_mem _ (List.mem_reverse.2 hy))⟩
  rcases List.mem_cons.mp h1 with e | e
  · rw [e]
    exact List.mem_of_getLast? h
  · exact List.mem_reverse.1 e

/-- **C14.envelope_spec** — the reverse `max` fold of `Builder::build` leaves at every index `i` the
    maximum of the raw values at indices `≥ i`, which is what the naive `listMax (raw.drop i)` returns. -/
theorem envelope_spec (raw env : List Rat) (h : envelope raw = some env) :
    env.length = raw.length ∧
    ∀ i, i < raw.length → ∃ m, env[i]? = some m ∧ listMax (raw.drop i) = some m ∧
      m ∈ raw.drop i ∧ ∀ y ∈ raw.drop i, y ≤ m := by
  refine ⟨envelope_length h, fun i hi => ?_⟩
  obtain ⟨init, hl, rfl⟩ := envelope_eq_some.mp h
  have hi' := Nat.not_le.2 hi
  obtain ⟨m, hm, hm1, hm2⟩ := listMax_spec (mt List.drop_eq_nil_iff.mp hi')
  have hlast : (raw.drop i).getLast? = some init := by rw [List.getLast?_drop, if_neg hi', hl]
  obtain ⟨hf1, hf2⟩ := foldr_max_last_spec hlast
  -- both `m` and the fold are a greatest element of `raw.drop i`
  refine ⟨m, ?_, hm, hm1, hm2⟩
  rw [envGo_get init raw i hi, le_antisymm (hm2 _ hf1) (hf2 _ hm1)]

/-- the envelope exists for non-empty input (on an empty bin vector the `unwrap` panics: `none`) -/
theorem envelope_isSome (raw : List Rat) (h : raw ≠ []) : ∃ env, envelope raw = some env :=
  exists_envelope h

/-- **C14.envelope_antitone** — the envelope never increases with the bin index (score) -/
theorem envelope_antitone (raw env : List Rat) (h : envelope raw = some env) :
    ∀ (i j : Nat) (a b : Rat), i ≤ j → env[i]? = some a → env[j]? = some b → b ≤ a := by
  intro i j a b hij ha hb
  obtain ⟨hlen, hspec⟩ := envelope_spec raw env h
  have hj : j < raw.length := hlen ▸ (List.getElem?_eq_some_iff.mp hb).1
  obtain ⟨m, hm, -, -, hmge⟩ := hspec i (hij.trans_lt hj)
  obtain ⟨m', hm', -, hmem', -⟩ := hspec j hj
  cases hm.symm.trans ha
  cases hm'.symm.trans hb
  -- an element of `raw.drop j` is an element of `raw.drop i`
  refine hmge _ (List.mem_of_mem_drop (i := j - i) ?_)
  rwa [List.drop_drop, Nat.add_sub_cancel' hij]

/-- **C14.envelope_eq_specEnvelope** — the fold equals the O(n²) definition the driver evaluates -/
theorem envelope_eq_specEnvelope (raw env : List Rat) (h : envelope raw = some env) :
    env = specEnvelope raw := by
  obtain ⟨hlen, hspec⟩ := envelope_spec raw env h
  refine List.ext_getElem? fun i => ?_
  rw [specEnvelope, List.getElem?_map]
  by_cases hi : i < raw.length
  · obtain ⟨m, hm, hm', -, -⟩ := hspec i hi
    rw [hm, List.getElem?_range hi, Option.map_some, hm', Option.getD_some]
  · have hi' : raw.length ≤ i := Nat.le_of_not_lt hi
    rw [List.getElem?_eq_none (hlen.le.trans hi'), List.getElem?_eq_none (List.length_range.le.trans hi'),
      Option.map_none]

example : envelope [(1:Rat)/2, 1/4, 1/3, 1/10] = some [1/2, 1/3, 1/3, 1/10] := by
  decide +kernel

theorem lerp_mem {a b c d t : Rat} (hca : c ≤ a) (hcb : c ≤ b) (had : a ≤ d) (hbd : b ≤ d)
    (h0 : 0 ≤ t) (h1 : t ≤ 1) : c ≤ a + (b - a) * t ∧ a + (b - a) * t ≤ d := by
  have h2 : c - a ≤ (c - a) * t := le_mul_of_le_one_right (sub_nonpos.2 hca) h1
  have h3 : (c - a) * t ≤ (b - a) * t := Rat.mul_le_mul_of_nonneg_right (sub_le_sub_right hcb a) h0
  have h4 : (b - a) * t ≤ (d - a) * t := Rat.mul_le_mul_of_nonneg_right (sub_le_sub_right hbd a) h0
  have h5 : (d - a) * t ≤ d - a := mul_le_of_le_one_right (sub_nonneg.2 had) h1
  exact ⟨(add_sub_cancel a c).symm.trans_le ((add_le_add_iff_left a).2 (h2.trans h3)),
    ((add_le_add_iff_left a).2 (h4.trans h5)).trans_eq (add_sub_cancel a d)⟩

theorem lerp_anti {a b t t' : Rat} (h : b ≤ a) (ht : t ≤ t') : a + (b - a) * t' ≤ a + (b - a) * t :=
  (add_le_add_iff_left a).2 (mul_le_mul_of_nonpos_left ht (sub_nonpos.2 h))

theorem floor_facts {q : Rat} (hq : 0 ≤ q) :
    ((q.floor.toNat : Nat) : Rat) ≤ q ∧ q < ((q.floor.toNat : Nat) : Rat) + 1 := by
  have h0 : 0 ≤ q.floor := Rat.le_floor_iff.mpr (by rwa [Int.cast_zero])
  rw [← Int.cast_natCast, Int.toNat_of_nonneg h0]
  have := Rat.lt_floor_add_one q
  rw [Int.cast_add, Int.cast_one] at this
  exact ⟨Rat.floor_le q, this⟩

theorem weight_eq {s m st : Rat} (hst : st ≠ 0) (lo : Rat) : (s - (lo * st + m)) / st = (s - m) / st - lo := by
  rw [add_comm, ← sub_sub, sub_div, mul_div_cancel_right₀ _ hst]

/-- **C14.interp_spec** — for a score inside the fitted range `[min, min + (n−1)·step]`,
    `posterior_error` selects the bin `lo = ⌊(s−min)/step⌋` containing the score, and returns the
    affine interpolation `b_lo + (b_hi − b_lo)·t` at the position `t ∈ [0,1)` of the score inside the
    bin (`s = min + (lo + t)·step`), which lies between the two neighbouring grid values. -/
theorem interp_spec (e : Estimator Rat) (s : Rat) (hn : 1 ≤ e.bins.length) (hstep : 0 < e.scoreStep)
    (h1 : e.minScore ≤ s)
    (h2 : s ≤ e.minScore + ((e.bins.length - 1 : Nat) : Rat) * e.scoreStep) :
    ∃ (lo : Nat) (bl bh t v : Rat), lo ≤ e.bins.length - 1 ∧
      e.bins[lo]? = some bl ∧ e.bins[min (e.bins.length - 1) (lo + 1)]? = some bh ∧
      0 ≤ t ∧ t < 1 ∧ s = e.minScore + ((lo : Rat) + t) * e.scoreStep ∧
      posteriorError e s = some v ∧ v = bl + (bh - bl) * t ∧ min bl bh ≤ v ∧ v ≤ max bl bh := by
  have hne : e.scoreStep ≠ 0 := hstep.ne'
  obtain ⟨bl, bh, hbl, hbh, hv⟩ := posteriorError_eq e s (List.ne_nil_of_length_pos hn)
  -- the position `(s − min)/step` lies in `[0, n−1]`, so the `min` of `bin_lo` is its floor …
  obtain ⟨hf1, hf2⟩ := floor_facts (Rat.div_nonneg (sub_nonneg.2 h1) hstep.le)
  have hlo : binLo e s = ((s - e.minScore) / e.scoreStep).floor.toNat :=
    min_eq_right (Rat.natCast_le_natCast.1 (hf1.trans ((div_le_iff₀ hstep).2 (sub_le_iff_le_add'.2 h2))))
  rw [← hlo] at hf1 hf2
  -- … and the clamp leaves the weight, its fractional part, as it is
  have ht0 := sub_nonneg.2 hf1
  have ht1 := sub_lt_iff_lt_add'.2 hf2
  rw [ofNat_rat, weight_eq hne, clamp01_rat_id ht0 ht1.le] at hv
  exact ⟨_, bl, bh, _, _, binLo_le e s, hbl, hbh, ht0, ht1,
    by rw [add_sub_cancel, div_mul_cancel₀ _ hne, add_sub_cancel], hv, rfl,
    lerp_mem (min_le_left _ _) (min_le_right _ _) (le_max_left _ _) (le_max_right _ _) ht0 ht1.le⟩

/-- **C14.interp_grid** — at the grid point `min + i·step` the value is the grid value `bins[i]` -/
theorem interp_grid (e : Estimator Rat) (i : Nat) (b : Rat) (hstep : 0 < e.scoreStep)
    (hb : e.bins[i]? = some b) :
    posteriorError e (e.minScore + (i : Rat) * e.scoreStep) = some b := by
  have hi : i < e.bins.length := (List.getElem?_eq_some_iff.mp hb).1
  have hne : e.scoreStep ≠ 0 := hstep.ne'
  generalize hs : e.minScore + (i : Rat) * e.scoreStep = s
  have hq : (s - e.minScore) / e.scoreStep = i := by
    rw [← hs, add_sub_cancel_left, mul_div_cancel_right₀ _ hne]
  have hlo : binLo e s = i := by
    unfold binLo
    rw [floorNat_rat, hq, ← Int.cast_natCast, Rat.floor_intCast, Int.toNat_natCast]
    exact min_eq_right (Nat.le_sub_one_of_lt hi)
  obtain ⟨bl, bh, hbl, -, hv⟩ := posteriorError_eq e s (List.ne_nil_of_length_pos (Nat.zero_lt_of_lt hi))
  rw [hlo] at hbl hv
  rw [hv, ← hbl.symm.trans hb, ofNat_rat, weight_eq hne, hq, sub_self, clamp01_rat_id le_rfl zero_le_one,
    mul_zero, add_zero]

/-- **C14.interp_range_all** — thanks to the clamp of the interpolation weight, for EVERY score
    (inside or outside the fitted range, whatever the step) the value lies between two grid values,
    hence in `[0,1]` when the grid is. -/
theorem interp_range_all (e : Estimator Rat) (s : Rat) (hn : e.bins ≠ []) :
    ∃ v bl bh, posteriorError e s = some v ∧ bl ∈ e.bins ∧ bh ∈ e.bins ∧ min bl bh ≤ v ∧ v ≤ max bl bh := by
  obtain ⟨bl, bh, hbl, hbh, hv⟩ := posteriorError_eq e s hn
  exact ⟨_, bl, bh, hv, List.mem_of_getElem? hbl, List.mem_of_getElem? hbh,
    lerp_mem (min_le_left _ _) (min_le_right _ _) (le_max_left _ _) (le_max_right _ _)
      (clamp01_rat_nonneg _) (clamp01_rat_le_one _)⟩

/-- **C14.interp_range** — if every grid value is in `[0,1]`, so is every interpolated value -/
theorem interp_range (e : Estimator Rat) (s : Rat) (hn : 1 ≤ e.bins.length) (hstep : 0 < e.scoreStep)
    (h1 : e.minScore ≤ s)
    (h2 : s ≤ e.minScore + ((e.bins.length - 1 : Nat) : Rat) * e.scoreStep)
    (hb : ∀ b ∈ e.bins, 0 ≤ b ∧ b ≤ 1) :
    ∃ v, posteriorError e s = some v ∧ 0 ≤ v ∧ v ≤ 1 := by
  obtain ⟨lo, bl, bh, t, v, _, hbl, hbh, _, _, _, hv, _, hmin, hmax⟩ := interp_spec e s hn hstep h1 h2
  have hl := hb bl (List.mem_of_getElem? hbl)
  have hh := hb bh (List.mem_of_getElem? hbh)
  exact ⟨v, hv, (le_min hl.1 hh.1).trans hmin, hmax.trans (max_le hl.2 hh.2)⟩

theorem binLo_mono (e : Estimator Rat) {s s' : Rat} (hstep : 0 < e.scoreStep) (h : s ≤ s') :
    binLo e s ≤ binLo e s' :=
  min_le_min le_rfl (Int.toNat_le_toNat
    (Rat.floor_monotone (div_le_div_of_nonneg_right (sub_le_sub_right h _) hstep.le)))

/-- holds outside the fitted range too: a later bin holds smaller values, and inside a bin the clamped
    weight grows with the score while the slope is `≤ 0` -/
theorem posteriorError_antitone (e : Estimator Rat) {s s' : Rat} (hn : e.bins ≠ []) (hstep : 0 < e.scoreStep)
    (hss : s ≤ s')
    (hanti : ∀ (i j : Nat) (a b : Rat), i ≤ j → e.bins[i]? = some a → e.bins[j]? = some b → b ≤ a) :
    ∃ v v', posteriorError e s = some v ∧ posteriorError e s' = some v' ∧ v' ≤ v := by
  obtain ⟨bl, bh, hbl, hbh, hv⟩ := posteriorError_eq e s hn
  obtain ⟨bl', bh', hbl', hbh', hv'⟩ := posteriorError_eq e s' hn
  refine ⟨_, _, hv, hv', ?_⟩
  have hd : bh ≤ bl := hanti _ _ _ _ (le_binHi (binLo_le e s)) hbl hbh
  have hd' : bh' ≤ bl' := hanti _ _ _ _ (le_binHi (binLo_le e s')) hbl' hbh'
  rcases (binLo_mono e hstep hss).lt_or_eq with hlt | heq
  · -- different bins: v ≥ b_hi ≥ b_lo' ≥ v'
    have hmid : bl' ≤ bh := hanti _ _ _ _ ((binHi_le_succ e _).trans hlt) hbh hbl'
    exact (lerp_mem hd' le_rfl le_rfl hd' (clamp01_rat_nonneg _) (clamp01_rat_le_one _)).2.trans
      (hmid.trans (lerp_mem hd le_rfl le_rfl hd (clamp01_rat_nonneg _) (clamp01_rat_le_one _)).1)
  · -- same bin
    rw [← heq] at hbl' hbh' ⊢
    cases hbl.symm.trans hbl'
    cases hbh.symm.trans hbh'
    exact lerp_anti hd (clamp01_rat_mono (div_le_div_of_nonneg_right (sub_le_sub_right hss _) hstep.le))

/-- **C14.interp_antitone** — if the grid values never increase with the bin index (which the
    envelope guarantees, `envelope_antitone`), the posterior error never increases with the score
    anywhere inside the fitted range. -/
theorem interp_antitone (e : Estimator Rat) (s s' : Rat) (hn : 1 ≤ e.bins.length)
    (hstep : 0 < e.scoreStep) (h1 : e.minScore ≤ s) (hss : s ≤ s')
    (h2 : s' ≤ e.minScore + ((e.bins.length - 1 : Nat) : Rat) * e.scoreStep)
    (hanti : ∀ (i j : Nat) (a b : Rat), i ≤ j → e.bins[i]? = some a → e.bins[j]? = some b → b ≤ a) :
    ∃ v v', posteriorError e s = some v ∧ posteriorError e s' = some v' ∧ v' ≤ v :=
  posteriorError_antitone e (List.ne_nil_of_length_pos hn) hstep hss hanti

/-- non-vacuity: 3 bins over `[0, 2]`; the value at `s = 1/2` is half-way between bins 0 and 1 -/
example : posteriorError ({ bins := [1, 1/2, 0], minScore := 0, scoreStep := 1 } : Estimator Rat) (1/2)
    = some (3/4) := by
  decide +kernel

/-- **C14.build_length** — the estimator, when `build` returns one, has exactly the requested number of
    bins (`Builder::default()`: 1000), and that number is not 0 -/
theorem build_length (Fq : Fns Rat) (scores : List Rat) (decoys : List Bool) (nbins : Nat) (adj : Rat)
    (mono : Bool) (e : Estimator Rat) (h : build Fq scores decoys nbins adj mono = some e) :
    e.bins.length = nbins ∧ 0 < nbins :=
  build_bins_length h

theorem buildDefault_length (Fq : Fns Rat) (scores : List Rat) (decoys : List Bool) (e : Estimator Rat)
    (h : buildDefault Fq scores decoys = some e) : e.bins.length = 1000 :=
  (build_length Fq scores decoys defaultBins _ true e h).1

/-- **C14.bandwidth_eq_spec** — `Kde::new` uses the rule-of-thumb bandwidth `σ·(4/(3n))^(1/5)` (Silverman
    factor 4/3, exponent 1/5, population σ), times the caller's factor -/
theorem bandwidth_eq_spec (Fq : Fns Rat) (l : List Rat) (adj : Rat) :
    (Kde.new Fq l adj).bandwidth = specBandwidth Fq l adj := by
  unfold Kde.new specBandwidth
  simp only [ofNat_rat]
  rw [div_div, mul_comm]

theorem foldl_add_eq (g : Rat → Rat) (l : List Rat) (a : Rat) :
    l.foldl (fun acc x => acc + g x) a = a + (l.map g).foldr (fun u v => u + v) 0 := by
  induction l generalizing a with
  | nil => simp
  | cons y ys ih =>
    simp only [List.foldl_cons, List.map_cons, List.foldr_cons]
    rw [ih]
    ring

/-- **C14.pdf_eq_spec** — `Kde::pdf` is the Gaussian kernel density `1/(n·h·√(2π)) · Σ exp(−((x−xᵢ)/h)²/2)` -/
theorem pdf_eq_spec (Fq : Fns Rat) (l : List Rat) (adj x : Rat) :
    (Kde.new Fq l adj).pdf Fq x = specDensity Fq l (Kde.new Fq l adj).bandwidth x := by
  unfold Kde.pdf Kde.ksum specDensity
  rw [foldl_add_eq, ofNat_rat, Nat.cast_zero, zero_add]
  refine congrArg₂ (· / ·) (congrArg (List.foldr _ 0) (List.map_congr_left fun xi _ => ?_)) ?_
  · -- the kernel: `-(1/2)·z² = -(z²/2)`
    unfold kernel sq
    simp only [ofNat_rat]
    congr 1
    push_cast
    ring
  · -- the constant: `√(2π)·h·n = n·h·√(2π)`
    show Fq.sqrt (ofNat 2 * Fq.pi) * (Kde.new Fq l adj).bandwidth * ofNat l.length = _
    ring

/-- **C14.reported_spec** — the value `score_psms` stores is the cast of the `log10` of the
    (double-precision) PEP, with the `-324` floor exactly when the PEP is `0`: provided the cast `log10`
    of every positive number is not infinite (true for `f64 → f32`: `log10` of a positive double lies in
    `[-323.4, 308.3]`) and that of `0` is. Casting the PEP first and taking `log10` afterwards would fail
    the first hypothesis (positive doubles below `1.4e-45` cast to 0). -/
theorem reported_spec {β : Type} (log10 : Rat → Rat) (cast : Rat → β) (isInf : β → Bool) (floorVal : β)
    (hpos : ∀ x : Rat, 0 < x → isInf (cast (log10 x)) = false)
    (hzero : isInf (cast (log10 0)) = true)
    (pep : Rat) (h : 0 ≤ pep) :
    reported log10 cast isInf floorVal pep = if pep = 0 then floorVal else cast (log10 pep) := by
  unfold reported
  rcases lt_or_eq_of_le h with hlt | heq
  · simp [hpos pep hlt, ne_of_gt hlt]
  · subst heq
    simp [hzero]

/-- **C14.reported_finite** — what `score_psms` stores is finite as soon as the PEP is a finite
    number `≥ 0`: `log10` of a positive number is finite, `log10 0 = −∞` is replaced by the floor. -/
theorem reported_finite {β : Type} (log10 : Rat → Rat) (cast : Rat → β) (isInf isFinite : β → Bool)
    (floorVal : β)
    (hpos : ∀ x : Rat, 0 < x → isFinite (cast (log10 x)) = true)
    (hzero : isInf (cast (log10 0)) = true) (hfloor : isFinite floorVal = true)
    (hexcl : ∀ y, isFinite y = true → isInf y = false)
    (pep : Rat) (h : 0 ≤ pep) : isFinite (reported log10 cast isInf floorVal pep) = true := by
  rw [reported_spec log10 cast isInf floorVal (fun x hx => hexcl _ (hpos x hx)) hzero pep h]
  split
  · exact hfloor
  · next hne => exact hpos pep (lt_of_le_of_ne h (Ne.symm hne))

/-- non-vacuity of `reported_spec`: a toy `log10` (`x ↦ x − 1`), `none` as the infinite value -/
example : reported (fun x : Rat => x - 1) (fun x => if x = -1 then none else some x)
    (fun o => o.isNone) (some (-324)) (1/2) = some (-1/2) ∧
    reported (fun x : Rat => x - 1) (fun x => if x = -1 then none else some x)
    (fun o => o.isNone) (some (-324)) 0 = some (-324) := by
  decide +kernel

theorem foldl_add_nonneg (g : Rat → Rat) (hg : ∀ x, 0 ≤ g x) (l : List Rat) (a : Rat) (ha : 0 ≤ a) :
    a ≤ l.foldl (fun acc x => acc + g x) a ∧
    (l.foldl (fun acc x => acc + g x) a = 0 ↔ a = 0 ∧ ∀ x ∈ l, g x = 0) := by
  induction l generalizing a with
  | nil => simp
  | cons y ys ih =>
    obtain ⟨h1, h2⟩ := ih (a + g y) (Rat.add_nonneg ha (hg y))
    refine ⟨(le_add_of_nonneg_right (hg y)).trans h1, ?_⟩
    rw [List.foldl_cons, h2, add_eq_zero_iff_of_nonneg ha (hg y), List.forall_mem_cons, and_assoc]

/-- what the theorems need of the transcendental parameters at `Rat` -/
structure FnsOk (Fq : Fns Rat) : Prop where
  exp_nonneg : ∀ x, 0 ≤ Fq.exp x
  sqrt_nonneg : ∀ x, 0 ≤ x → 0 ≤ Fq.sqrt x
  sqrt_zero : ∀ x, 0 ≤ x → (Fq.sqrt x = 0 ↔ x = 0)
  powf_pos : ∀ a b, 0 < a → 0 < Fq.powf a b
  pi_pos : 0 < Fq.pi

section kernel
variable {Fq : Fns Rat}

theorem ksum_eq_zero_iff (hexp : ∀ x, 0 ≤ Fq.exp x) (k : Kde Rat) (x : Rat) :
    0 ≤ k.ksum Fq x ∧ (k.ksum Fq x = 0 ↔ ∀ xi ∈ k.sample, kernel Fq ((x - xi) / k.bandwidth) = 0) := by
  have := foldl_add_nonneg (fun xi => kernel Fq ((x - xi) / k.bandwidth)) (fun _ => hexp _) k.sample 0 le_rfl
  exact ⟨this.1, this.2.trans (and_iff_right rfl)⟩

theorem pdf_eq_zero_iff (hexp : ∀ x, 0 ≤ Fq.exp x) (k : Kde Rat) (hc : 0 < k.constant) (x : Rat) :
    0 ≤ k.pdf Fq x ∧ (k.pdf Fq x = 0 ↔ ∀ xi ∈ k.sample, kernel Fq ((x - xi) / k.bandwidth) = 0) := by
  obtain ⟨h0, hz⟩ := ksum_eq_zero_iff hexp k x
  exact ⟨Rat.div_nonneg h0 hc.le, (div_eq_zero_iff.trans (or_iff_left hc.ne')).trans hz⟩

theorem pdf_pos (hexp : ∀ x, 0 < Fq.exp x) (k : Kde Rat) (hs : k.sample ≠ []) (hc : 0 < k.constant) (x : Rat) :
    0 < k.pdf Fq x := by
  obtain ⟨h0, hz⟩ := pdf_eq_zero_iff (fun x => (hexp x).le) k hc x
  obtain ⟨y, hy⟩ := List.exists_mem_of_ne_nil _ hs
  exact lt_of_le_of_ne h0 fun e => (hexp _).ne' (hz.mp e.symm y hy)

end kernel

/-- the kernel sum is `≥ 0`, and `0` exactly when every kernel value is (underflow) -/
theorem ksum_zero_iff (Fq : Fns Rat) (ok : FnsOk Fq) (k : Kde Rat) (x : Rat) :
    0 ≤ k.ksum Fq x ∧ (k.ksum Fq x = 0 ↔ ∀ xi ∈ k.sample, kernel Fq ((x - xi) / k.bandwidth) = 0) :=
  ksum_eq_zero_iff ok.exp_nonneg k x

def Fin01 (x : XQ) : Prop := ∃ q : Rat, x = some q ∧ 0 ≤ q ∧ q ≤ 1

theorem foldExt_lift {f : XQ → XQ → XQ} {fq : Rat → Rat → Rat} (H : ∀ a b, f (some a) (some b) = some (fq a b))
    (l : List Rat) (hl : l ≠ []) : ∃ m : Rat, foldExt f (l.map some) = some (some m) := by
  cases l with
  | nil => exact absurd rfl hl
  | cons x xs => exact ⟨_, (foldExt_cons f _ _).trans (congrArg some (foldl_lift H xs x))⟩

theorem bayes_fin01 {p a b : Rat} (hp0 : 0 ≤ p) (hp1 : p ≤ 1) (ha : 0 ≤ a) (hb : 0 ≤ b)
    (hden : b * (1 - p) + a * p ≠ 0) : Fin01 (bayes (some p : XQ) (some a) (some b)) := by
  rw [bayes_xq, if_neg hden]
  have h0 : 0 ≤ b * (1 - p) + a * p := Rat.add_nonneg (Rat.mul_nonneg hb (sub_nonneg.2 hp1)) (Rat.mul_nonneg ha hp0)
  exact ⟨_, rfl, bayes_mem hp0 hp1 ha hb (lt_of_le_of_ne h0 hden.symm)⟩

theorem bayes_finite {p a b : Rat} (hp0 : 0 ≤ p) (hp1 : p ≤ 1) (ha : 0 < a) (hb : 0 < b) :
    Fin01 (bayes (some p : XQ) (some a) (some b)) := by
  refine bayes_fin01 hp0 hp1 ha.le hb.le (ne_of_gt ?_)
  rcases hp0.eq_or_lt with rfl | hp
  · exact add_pos_of_pos_of_nonneg (Rat.mul_pos hb (sub_pos.2 one_pos)) (Rat.mul_nonneg ha.le le_rfl)
  · exact add_pos_of_nonneg_of_pos (Rat.mul_nonneg hb.le (sub_nonneg.2 hp1)) (Rat.mul_pos ha hp)

/-- **C14.finite_bins** — run at `XQ` (a division by zero or any non-finite intermediate value
    yields `none`): if both class bandwidths are finite and non-zero, both normalising constants
    finite and positive, and `exp` returns finite positive values, then every raw Bayes ratio on
    the grid is finite and in `[0,1]` — no `0/0`. -/
theorem finite_bins (F : Fns XQ) (hexp : ∀ x : Rat, ∃ y, F.exp (some x) = some y ∧ 0 < y)
    (d t : List Rat) (hd : d ≠ []) (ht : t ≠ []) (hdb cd htb ct p minS step : Rat)
    (hd0 : hdb ≠ 0) (ht0 : htb ≠ 0) (hcd : 0 < cd) (hct : 0 < ct) (hp0 : 0 ≤ p) (hp1 : p ≤ 1) (nbins : Nat) :
    ∀ b ∈ rawBins F { sample := d.map some, bandwidth := some hdb, constant := some cd }
                     { sample := t.map some, bandwidth := some htb, constant := some ct }
                     (some p) (some minS) (some step) nbins, Fin01 b := by
  obtain ⟨g, hg⟩ := Classical.skolem.mp hexp
  -- `F.exp` is the lifting of `g`; of the parameters only `exp` enters a density
  let Fq : Fns Rat := { exp := g, sqrt := id, powf := fun _ _ => 0, pi := 0 }
  have hlift : ∀ x : Rat, F.exp (some x) = some (Fq.exp x) := fun x => (hg x).1
  have hpos : ∀ x : Rat, 0 < Fq.exp x := fun x => (hg x).2
  intro b hb
  obtain ⟨bin, -, rfl⟩ := List.mem_map.mp hb
  simp only [xq_ofNat, xq_mul, xq_add]
  rw [pdf_lift_of_ne hlift d hd0 hcd.ne', pdf_lift_of_ne hlift t ht0 hct.ne']
  exact bayes_finite hp0 hp1 (pdf_pos hpos ⟨d, hdb, cd⟩ hd hcd _) (pdf_pos hpos ⟨t, htb, ct⟩ ht hct _)

theorem fin01_fmax (a b : XQ) (ha : Fin01 a) (hb : Fin01 b) : Fin01 (fmax a b) := by
  obtain ⟨qa, rfl, ha0, ha1⟩ := ha
  obtain ⟨qb, rfl, -, hb1⟩ := hb
  exact ⟨_, rfl, le_max_of_le_left ha0, max_le ha1 hb1⟩

theorem estimator_finite {raw : List XQ} {n : Nat} (hlen : raw.length = n) (hn : 0 < n)
    (hraw : ∀ b ∈ raw, Fin01 b) (mono : Bool) (mn st : Rat) :
    ∃ (e : Estimator XQ) (m st' : Rat),
      ((if mono then envelope raw else some raw).map fun bins =>
        ({ bins, minScore := some mn, scoreStep := some st } : Estimator XQ)) = some e ∧
      e.minScore = some m ∧ e.scoreStep = some st' ∧ e.bins.length = n ∧ ∀ b ∈ e.bins, Fin01 b := by
  cases mono
  · exact ⟨_, mn, st, rfl, rfl, rfl, hlen, hraw⟩
  · obtain ⟨env, henv⟩ := exists_envelope (List.ne_nil_of_length_pos (hlen ▸ hn))
    rw [if_pos rfl, henv]
    exact ⟨_, mn, st, rfl, rfl, rfl, (envelope_length henv).trans hlen, envelope_forall fin01_fmax henv hraw⟩

/-- **C14.finite_posterior** — with finite bins and a finite NON-ZERO step, `posterior_error` of
    every finite score is finite (the only division is by `score_step`). -/
theorem finite_posterior (bins : List Rat) (hb : bins ≠ []) (minS step s : Rat) (hstep : step ≠ 0) :
    ∃ v : Rat, posteriorError ({ bins := bins.map some, minScore := some minS, scoreStep := some step } : Estimator XQ)
      (some s) = some (some v) := by
  obtain ⟨bl, bh, hbl, hbh, hv⟩ := posteriorError_eq (α := XQ) ⟨bins.map some, some minS, some step⟩ (some s)
    (mt List.map_eq_nil_iff.mp hb)
  obtain ⟨bl, -, rfl⟩ := List.mem_map.mp (List.mem_of_getElem? hbl)
  obtain ⟨bh, -, rfl⟩ := List.mem_map.mp (List.mem_of_getElem? hbh)
  rw [hv]
  simp only [xq_ofNat, xq_mul, xq_add, xq_sub]
  rw [xq_div _ _ hstep]
  exact ⟨_, rfl⟩

/-- **C14.finite_partial** — the whole `Builder::build` at `XQ`: both classes present, at least two
    bins, `exp` finite and positive, and for each class a finite non-zero bandwidth and a finite
    positive normalising constant (this is the hypothesis the code does NOT establish: a class with
    zero score variance has bandwidth 0). Then the estimator exists, its grid origin and step are
    finite, and every bin is finite and in `[0,1]`, with or without the envelope. -/
theorem finite_partial (F : Fns XQ) (hexp : ∀ x : Rat, ∃ y, F.exp (some x) = some y ∧ 0 < y)
    (scores : List Rat) (decoys : List Bool) (nbins : Nat) (adj : Rat) (mono : Bool)
    (hbins : 2 ≤ nbins)
    (hd : classOf true scores decoys ≠ []) (ht : classOf false scores decoys ≠ [])
    (hkd : ∃ h c : Rat, h ≠ 0 ∧ 0 < c ∧
      Kde.new F (classOf true (scores.map some) decoys) (some adj) =
        { sample := (classOf true scores decoys).map some, bandwidth := some h, constant := some c })
    (hkt : ∃ h c : Rat, h ≠ 0 ∧ 0 < c ∧
      Kde.new F (classOf false (scores.map some) decoys) (some adj) =
        { sample := (classOf false scores decoys).map some, bandwidth := some h, constant := some c }) :
    ∃ (e : Estimator XQ) (m st : Rat),
      build F (scores.map some) decoys nbins (some adj) mono = some e ∧
      e.minScore = some m ∧ e.scoreStep = some st ∧ e.bins.length = nbins ∧ ∀ b ∈ e.bins, Fin01 b := by
  obtain ⟨hdb, cd, hd0, hcd, hkd⟩ := hkd
  obtain ⟨htb, ct, ht0, hct, hkt⟩ := hkt
  have hsne : scores ≠ [] := fun h => hd (by rw [h]; rfl)
  obtain ⟨mn, hmn⟩ := foldExt_lift xq_fmin scores hsne
  obtain ⟨mx, hmx⟩ := foldExt_lift xq_fmax scores hsne
  obtain ⟨st, hstep⟩ : ∃ st : Rat, ((some mx : XQ) - some mn) / ofNat (nbins - 1) = some st :=
    ⟨_, xq_div (mx - mn) _ (Nat.cast_ne_zero.2 (Nat.sub_pos_of_lt hbins).ne')⟩
  obtain ⟨hp0, hp1⟩ := pi_range (classOf true scores decoys).length scores.length
    ((Nat.le_add_right _ _).trans (classOf_lengths scores decoys)) (List.length_pos_iff.2 hsne)
  have hpos : 0 < nbins := Nat.lt_of_lt_of_le Nat.zero_lt_two hbins
  rw [build_of_range F decoys (some adj) mono hmn hmx hpos.ne']
  simp only [hkd, hkt, pi_lift scores decoys hsne, hstep]
  exact estimator_finite (rawBins_length ..) hpos
    (finite_bins F hexp _ _ hd ht hdb cd htb ct _ mn st hd0 ht0 hcd hct hp0 hp1 nbins) mono mn st

/-- **C14.finite_fails_on_zero_variance** — the hypothesis cannot be dropped: with a single decoy
    (σ = 0, bandwidth 0) the decoy density at the decoy's own score is `0/0`, non-finite (shown with
    constant `exp`, `powf` and `sqrt = id`). This is the known defect. -/
theorem finite_fails_on_zero_variance :
    let F : Fns XQ := { exp := fun _ => some 1, sqrt := fun x => x, powf := fun _ _ => some 1, pi := some 3 }
    (Kde.new F [some 1] (some 1)).bandwidth = some 0 ∧
    (Kde.new F [some 1] (some 1)).pdf F (some 1) = none := by
  decide +kernel

def toyFns : Fns XQ := { exp := fun _ => some 1, sqrt := fun x => x, powf := fun _ _ => some 1, pi := some 3 }

/-- non-vacuity of `finite_partial`: decoys `0, 2`, targets `1, 3`, 5 bins; with `toyFns` both
    bandwidths are `1` and both constants `12`. -/
example : ∃ (e : Estimator XQ) (m st : Rat),
    build toyFns (([0, 2, 1, 3] : List Rat).map some) [true, true, false, false] 5 (some 1) true = some e ∧
    e.minScore = some m ∧ e.scoreStep = some st ∧ e.bins.length = 5 ∧ ∀ b ∈ e.bins, Fin01 b :=
  finite_partial toyFns (fun _ => ⟨1, rfl, one_pos⟩) [0, 2, 1, 3] [true, true, false, false] 5 1 true
    (by decide) (by decide +kernel) (by decide +kernel)
    ⟨1, 12, one_ne_zero, by decide +kernel, by decide +kernel⟩
    ⟨1, 12, one_ne_zero, by decide +kernel, by decide +kernel⟩

example : bayes (some (1/2) : XQ) (some 1) (some 3) = some (1/4) := by decide +kernel

theorem ssd_zero_iff (m : Rat) (l : List Rat) : ssd m l = 0 ↔ ∀ x ∈ l, x = m := by
  have h := (foldl_add_nonneg (fun x => sq (x - m)) (fun _ => mul_self_nonneg _) l 0 le_rfl).2
  exact h.trans ((and_iff_right rfl).trans (forall₂_congr fun x _ => mul_self_eq_zero.trans sub_eq_zero))

theorem ssd_nonneg (m : Rat) (l : List Rat) : 0 ≤ ssd m l :=
  (foldl_add_nonneg (fun x => sq (x - m)) (fun _ => mul_self_nonneg _) l 0 le_rfl).1

theorem sum_const {c : Rat} {l : List Rat} (h : ∀ x ∈ l, x = c) : sum l = (l.length : Rat) * c := by
  unfold sum
  -- every step adds `c`, and a constant step folded over `l` is its `l.length`-th iterate
  rw [List.foldl_ext _ (fun acc _ => acc + c) _ fun acc x hx => by rw [h x hx], List.foldl_const,
    add_right_iterate, nsmul_eq_mul]
  exact zero_add _

theorem mean_const {c : Rat} {l : List Rat} (hl : l ≠ []) (h : ∀ x ∈ l, x = c) : mean l = c := by
  unfold mean
  rw [sum_const h, ofNat_rat, mul_div_cancel_left₀ _ (length_pos_rat hl).ne']

section kde
variable {Fq : Fns Rat}

theorem std_nonneg (ok : FnsOk Fq) {l : List Rat} (hl : l ≠ []) : 0 ≤ std Fq.sqrt l :=
  ok.sqrt_nonneg _ (Rat.div_nonneg (ssd_nonneg _ _) (length_pos_rat hl).le)

theorem std_eq_zero_iff (ok : FnsOk Fq) {l : List Rat} (hl : l ≠ []) :
    std Fq.sqrt l = 0 ↔ ∃ c, ∀ x ∈ l, x = c := by
  have hn := length_pos_rat hl
  simp only [std, ofNat_rat]
  rw [ok.sqrt_zero _ (Rat.div_nonneg (ssd_nonneg _ _) hn.le), div_eq_zero_iff, or_iff_left hn.ne', ssd_zero_iff]
  exact ⟨fun h => ⟨_, h⟩, fun ⟨c, hc⟩ => by rwa [mean_const hl hc]⟩

theorem powf_factor_pos (ok : FnsOk Fq) {l : List Rat} (hl : l ≠ []) :
    0 < Fq.powf ((ofNat 4 : Rat) / ofNat 3 / ofNat l.length) (ofNat 1 / ofNat 5) :=
  ok.powf_pos _ _ (div_pos (div_pos (Rat.natCast_pos.2 (by decide)) (Rat.natCast_pos.2 (by decide))) (length_pos_rat hl))

theorem bandwidth_nonneg (ok : FnsOk Fq) {l : List Rat} (hl : l ≠ []) {adj : Rat} (hadj : 0 ≤ adj) :
    0 ≤ (Kde.new Fq l adj).bandwidth :=
  Rat.mul_nonneg (Rat.mul_nonneg (std_nonneg ok hl) (powf_factor_pos ok hl).le) hadj

end kde

/-- **C14.bandwidth_zero_iff** — the rule-of-thumb bandwidth `σ·(4/(3n))^(1/5)·adj` of a non-empty class is
    `0` exactly when all its scores are equal (a single score included) — for any `sqrt` that vanishes
    only at 0 and any positive `powf`. -/
theorem bandwidth_zero_iff (Fq : Fns Rat) (ok : FnsOk Fq) (l : List Rat) (hl : l ≠ []) (adj : Rat)
    (hadj : adj ≠ 0) :
    (Kde.new Fq l adj).bandwidth = 0 ↔ ∃ c, ∀ x ∈ l, x = c := by
  show std Fq.sqrt l * Fq.powf _ _ * adj = 0 ↔ _
  rw [mul_eq_zero_iff_right hadj, mul_eq_zero_iff_right (powf_factor_pos ok hl).ne', std_eq_zero_iff ok hl]

/-- the normalising constant `√(2π)·h·n` of a non-empty class vanishes exactly when the bandwidth does,
    and is non-negative when the bandwidth is -/
theorem constant_zero_iff (Fq : Fns Rat) (ok : FnsOk Fq) (l : List Rat) (hl : l ≠ []) (adj : Rat) :
    ((Kde.new Fq l adj).constant = 0 ↔ (Kde.new Fq l adj).bandwidth = 0) ∧
    (0 ≤ (Kde.new Fq l adj).bandwidth → 0 ≤ (Kde.new Fq l adj).constant) := by
  have hn := length_pos_rat hl
  have hpos : (0 : Rat) < ofNat 2 * Fq.pi := Rat.mul_pos (Rat.natCast_pos.2 (by decide)) ok.pi_pos
  have h2pi : 0 < Fq.sqrt (ofNat 2 * Fq.pi) :=
    lt_of_le_of_ne (ok.sqrt_nonneg _ hpos.le) fun h => hpos.ne' ((ok.sqrt_zero _ hpos.le).mp h.symm)
  -- the constant is `√(2π) * bandwidth * n` by unfolding
  exact ⟨(mul_eq_zero_iff_right hn.ne').trans (mul_eq_zero_iff_left h2pi.ne'),
    fun h => Rat.mul_nonneg (Rat.mul_nonneg h2pi.le h) hn.le⟩

theorem bayes_den_eq_zero {p a b : Rat} (hp0 : 0 < p) (hp1 : p < 1) (ha : 0 ≤ a) (hb : 0 ≤ b) :
    b * (1 - p) + a * p = 0 ↔ a = 0 ∧ b = 0 := by
  rw [add_eq_zero_iff_of_nonneg (Rat.mul_nonneg hb (sub_pos.2 hp1).le) (Rat.mul_nonneg ha hp0.le),
    mul_eq_zero_iff_right (sub_pos.2 hp1).ne', mul_eq_zero_iff_right hp0.ne', and_comm]

/-- **C14.raw_bin_nonfinite_iff** — at `XQ` (`none` = NaN/±∞; `exp` may underflow to 0 but is otherwise
    finite): the raw Bayes ratio at a finite grid point `x`, for non-empty classes `d`, `t` with finite
    bandwidths/constants (constant `= 0` iff bandwidth `= 0`, as `Kde::new` makes them) and `0 < π < 1`,
    is NON-FINITE iff the decoy bandwidth is 0, or the target bandwidth is 0, or every kernel value of
    BOTH classes at `x` is 0; otherwise it is finite and in `[0,1]`. The model has no other source of a
    NaN bin than these two known findings (zero-variance class, `bandwidth_zero_iff`; density underflow). -/
theorem raw_bin_nonfinite_iff (F : Fns XQ) (Fq : Fns Rat) (L : Lifts F Fq) (ok : FnsOk Fq)
    (d t : List Rat) (hd : d ≠ []) (ht : t ≠ []) (hdb cd htb ct p x : Rat)
    (hcd : cd = 0 ↔ hdb = 0) (hct : ct = 0 ↔ htb = 0) (hcd0 : 0 ≤ cd) (hct0 : 0 ≤ ct)
    (hp0 : 0 < p) (hp1 : p < 1) :
    let kd : Kde XQ := { sample := d.map some, bandwidth := some hdb, constant := some cd }
    let kt : Kde XQ := { sample := t.map some, bandwidth := some htb, constant := some ct }
    (bayes (some p) (kd.pdf F (some x)) (kt.pdf F (some x)) = none ↔
      hdb = 0 ∨ htb = 0 ∨
        ((∀ xi ∈ d, kernel Fq ((x - xi) / hdb) = 0) ∧ (∀ xi ∈ t, kernel Fq ((x - xi) / htb) = 0))) ∧
    (bayes (some p) (kd.pdf F (some x)) (kt.pdf F (some x)) ≠ none →
      Fin01 (bayes (some p) (kd.pdf F (some x)) (kt.pdf F (some x)))) := by
  dsimp only
  rw [pdf_lift L hd hdb cd x, pdf_lift L ht htb ct x]
  by_cases h1 : hdb = 0
  · rw [if_pos (Or.inl h1), bayes_none_fd]
    exact ⟨iff_of_true rfl (Or.inl h1), fun h => absurd rfl h⟩
  by_cases h2 : htb = 0
  · rw [if_pos (Or.inl h2), bayes_none_ft]
    exact ⟨iff_of_true rfl (Or.inr (Or.inl h2)), fun h => absurd rfl h⟩
  rw [if_neg (not_or.2 ⟨h1, mt hcd.mp h1⟩), if_neg (not_or.2 ⟨h2, mt hct.mp h2⟩)]
  -- both densities are finite: what remains is the denominator of the ratio at `Rat`
  have hcdp : 0 < cd := lt_of_le_of_ne hcd0 (Ne.symm (mt hcd.mp h1))
  have hctp : 0 < ct := lt_of_le_of_ne hct0 (Ne.symm (mt hct.mp h2))
  obtain ⟨ha0, haz⟩ := pdf_eq_zero_iff ok.exp_nonneg ⟨d, hdb, cd⟩ hcdp x
  obtain ⟨hb0, hbz⟩ := pdf_eq_zero_iff ok.exp_nonneg ⟨t, htb, ct⟩ hctp x
  refine ⟨?_, fun h => bayes_fin01 hp0.le hp1.le ha0 hb0 (mt bayes_xq_eq_none.mpr h)⟩
  rw [bayes_xq_eq_none, bayes_den_eq_zero hp0 hp1 ha0 hb0, haz, hbz, or_iff_right h1, or_iff_right h2]

/-- **C14.bin_nonfinite_iff** — for the classes `Builder::build` forms from finite scores (both present),
    any positive bandwidth factor and any finite grid point `x`: the raw Bayes ratio is non-finite
    iff all decoy scores are equal, or all target scores are equal, or every kernel value of both
    classes at `x` underflows to 0. -/
theorem bin_nonfinite_iff (F : Fns XQ) (Fq : Fns Rat) (L : Lifts F Fq) (ok : FnsOk Fq)
    (scores : List Rat) (decoys : List Bool) (adj : Rat) (hadj : 0 < adj)
    (hd : classOf true scores decoys ≠ []) (ht : classOf false scores decoys ≠ []) (x : Rat) :
    let d := classOf true scores decoys
    let t := classOf false scores decoys
    let π : XQ := ofNat (classOf true (scores.map some) decoys).length / ofNat (scores.map some).length
    let kd := Kde.new F (classOf true (scores.map some) decoys) (some adj)
    let kt := Kde.new F (classOf false (scores.map some) decoys) (some adj)
    bayes π (kd.pdf F (some x)) (kt.pdf F (some x)) = none ↔
      (∃ c, ∀ s ∈ d, s = c) ∨ (∃ c, ∀ s ∈ t, s = c) ∨
        ((∀ xi ∈ d, kernel Fq ((x - xi) / (Kde.new Fq d adj).bandwidth) = 0) ∧
         (∀ xi ∈ t, kernel Fq ((x - xi) / (Kde.new Fq t adj).bandwidth) = 0)) := by
  have hsne : scores ≠ [] := fun h => hd (by rw [h]; rfl)
  have hsl := length_pos_rat hsne
  have hp0 : (0 : Rat) < ofNat (classOf true scores decoys).length / ofNat scores.length :=
    div_pos (length_pos_rat hd) hsl
  -- `π < 1` because the targets take their share of the scores
  have hp1 := (div_lt_one hsl).2 (Rat.natCast_lt_natCast.2
    (Nat.lt_of_lt_of_le (Nat.lt_add_of_pos_right (List.length_pos_iff.2 ht)) (classOf_lengths scores decoys)))
  obtain ⟨hcd, hcd0⟩ := constant_zero_iff Fq ok _ hd adj
  obtain ⟨hct, hct0⟩ := constant_zero_iff Fq ok _ ht adj
  dsimp only
  rw [pi_lift scores decoys hsne, kde_new_lift L (classOf_map true scores decoys) hd adj,
    kde_new_lift L (classOf_map false scores decoys) ht adj,
    (raw_bin_nonfinite_iff F Fq L ok _ _ hd ht _ _ _ _ _ x hcd hct
      (hcd0 (bandwidth_nonneg ok hd hadj.le)) (hct0 (bandwidth_nonneg ok ht hadj.le)) hp0 hp1).1,
    bandwidth_zero_iff Fq ok _ hd adj hadj.ne', bandwidth_zero_iff Fq ok _ ht adj hadj.ne']

/-- for the non-vacuity examples: `exp` underflows to `0` below `-8` -/
def toyQ : Fns Rat :=
  { exp := fun x => if x < -8 then 0 else 1, sqrt := fun x => x, powf := fun _ _ => 1, pi := 3 }

/-- non-vacuity (zero-variance side): one decoy ⇒ bandwidth 0 -/
example : (Kde.new toyQ [5] 1).bandwidth = 0 := by decide +kernel
/-- non-vacuity (spread class): bandwidth `≠ 0` -/
example : (Kde.new toyQ [0, 2] 1).bandwidth = 1 := by decide +kernel
/-- non-vacuity (underflow side): decoys `0,2`, targets `100,102`, bandwidth 1: at `x = 50` every kernel
    argument is below `-8`, all kernel values are 0 -/
example : (∀ xi ∈ [(0:Rat), 2], kernel toyQ ((50 - xi) / 1) = 0) ∧ (∀ xi ∈ [(100:Rat), 102], kernel toyQ ((50 - xi) / 1) = 0) := by
  decide +kernel

/-- **C14.bayes_range_rounded** — the code's Bayes ratio `d/(t+d)`, `d = fd·π`, `t = ft·(1−π)`, with
    EVERY operation rounded by an arbitrary monotone rounding that fixes 0 and 1 and is idempotent,
    stays in `[0,1]` (non-negative densities, `π` a probability, rounded denominator positive):
    `t ≥ 0` rounds `t + d` to at least `d`, so the quotient is at most 1 before and after rounding. -/
theorem bayes_range_rounded {rnd : Rat → Rat} (R : Rounding rnd) (π fd ft : RQ rnd)
    (hπ0 : 0 ≤ π.val) (hπ1 : π.val ≤ 1) (hd : 0 ≤ fd.val) (ht : 0 ≤ ft.val)
    (hpos : 0 < (ft * (ofNat 1 - π) + fd * π).val) :
    0 ≤ (bayes π fd ft).val ∧ (bayes π fd ft).val ≤ 1 := by
  have h1 : ((ofNat 1 : RQ rnd) - π).val = rnd (1 - π.val) := by
    rw [RQ.sub_val, RQ.ofNat_val, Nat.cast_one, R.one]
  have hd0 : 0 ≤ (fd * π).val := R.nonneg (Rat.mul_nonneg hd hπ0)
  have ht0 : 0 ≤ (ft * (ofNat 1 - π)).val :=
    R.nonneg (Rat.mul_nonneg ht (h1 ▸ R.nonneg (sub_nonneg.2 hπ1)))
  have hds : (fd * π).val ≤ (ft * (ofNat 1 - π) + fd * π).val :=
    R.fixed_le (R.idem _) (le_add_of_nonneg_left ht0)
  exact ⟨R.nonneg (Rat.div_nonneg hd0 hpos.le), R.le_one ((div_le_one hpos).2 hds)⟩

/-- the rounded interpolation `rnd (l + rnd (rnd (u − l) · w))` with weight `w ∈ [0,1]` between two
    values of `[0,1]` (`l` representable): never negative; never above `l` when `u ≤ l` -/
theorem interp_core_rounded {rnd : Rat → Rat} (R : Rounding rnd) (l u w : Rat)
    (hl : rnd l = l) (hl0 : 0 ≤ l) (hu0 : 0 ≤ u) (hw0 : 0 ≤ w) (hw1 : w ≤ 1) :
    0 ≤ rnd (l + rnd (rnd (u - l) * w)) ∧ (u ≤ l → rnd (l + rnd (rnd (u - l) * w)) ≤ l) := by
  have hnegl : rnd (-l) = -l := by rw [R.odd, hl]
  constructor
  · apply R.nonneg
    rcases le_total l u with h | h
    · exact Rat.add_nonneg hl0 (R.nonneg (Rat.mul_nonneg (R.nonneg (sub_nonneg.2 h)) hw0))
    · -- u ≤ l : -l = rnd (-l) ≤ rnd (u - l) ≤ 0, and multiplying by w ∈ [0,1] stays above -l
      have h1 : -l ≤ rnd (u - l) := R.fixed_le hnegl (le_sub_iff_add_le.2 ((neg_add_cancel l).le.trans hu0))
      have h2 : rnd (u - l) ≤ 0 := R.nonpos (sub_nonpos.2 h)
      exact neg_le_iff_add_nonneg'.1 (R.fixed_le hnegl (h1.trans (le_mul_of_le_one_right h2 hw1)))
  · intro h
    have h2 : rnd (rnd (u - l) * w) ≤ 0 :=
      R.nonpos (mul_nonpos_of_nonpos_of_nonneg (R.nonpos (sub_nonpos.2 h)) hw0)
    exact R.le_fixed hl ((add_le_iff_nonpos_right l).2 h2)

/-- **C14.posterior_range_rounded** — `posterior_error` with every operation rounded (any `Rounding`),
    for EVERY score and whatever `min_score`/`score_step` are: if the bins are representable numbers
    of `[0,1]`, the value is `≥ 0` (so its `log10` is never NaN); if moreover the bins never increase
    with the index (the monotone envelope), the value is `≤` the lower bin, hence in `[0,1]`. This is
    what the clamp of the interpolation weight buys at the level the code runs; without the clamp the
    statement is false (the repaired defect: weight `1+ε` gave a negative value). -/
theorem posterior_range_rounded {rnd : Rat → Rat} (R : Rounding rnd) (e : Estimator (RQ rnd)) (s : RQ rnd)
    (hn : e.bins ≠ [])
    (hb : ∀ b ∈ e.bins, rnd b.val = b.val ∧ 0 ≤ b.val ∧ b.val ≤ 1) :
    ∃ v, posteriorError e s = some v ∧ 0 ≤ v.val ∧
      ((∀ (i j : Nat) (a b : RQ rnd), i ≤ j → e.bins[i]? = some a → e.bins[j]? = some b → b.val ≤ a.val) →
        v.val ≤ 1) := by
  obtain ⟨bl, bh, hbl, hbh, hv⟩ := posteriorError_eq e s hn
  obtain ⟨hlr, hl0, hl1⟩ := hb bl (List.mem_of_getElem? hbl)
  obtain ⟨-, hu0, -⟩ := hb bh (List.mem_of_getElem? hbh)
  have core := interp_core_rounded R bl.val bh.val _ hlr hl0 hu0
    (clamp01_rat_nonneg ((s - (ofNat (binLo e s) * e.scoreStep + e.minScore)) / e.scoreStep).val)
    (clamp01_rat_le_one _)
  exact ⟨_, hv, core.1, fun hanti => (core.2 (hanti _ _ _ _ (le_binHi (binLo_le e s)) hbl hbh)).trans hl1⟩

/-- non-vacuity: under `rnd8` (truncation to eighths) the code's Bayes ratio of `π = 1/2`, `fd = 1/3`,
    `ft = 5/7` is `1/4` (exactly it is `7/22`) -/
example : (bayes (⟨1/2⟩ : RQ rnd8) ⟨1/3⟩ ⟨5/7⟩).val = 1/4 := by decide +kernel
example : 0 ≤ (bayes (⟨1/2⟩ : RQ rnd8) ⟨1/3⟩ ⟨5/7⟩).val ∧ (bayes (⟨1/2⟩ : RQ rnd8) ⟨1/3⟩ ⟨5/7⟩).val ≤ 1 :=
  bayes_range_rounded rnd8_rounding _ _ _ (by decide +kernel) (by decide +kernel) (by decide +kernel)
    (by decide +kernel) (by decide +kernel)

/-- non-vacuity of `posterior_range_rounded`: bins `1, 1/2, 1/8` (eighths), a score inside bin 1 -/
example : (posteriorError ({ bins := [⟨1⟩, ⟨1/2⟩, ⟨1/8⟩], minScore := ⟨0⟩, scoreStep := ⟨1⟩ } : Estimator (RQ rnd8))
    ⟨11/6⟩).map (·.val) = some (1/4) := by decide +kernel

/-- **C14.posteriorError_history_free** — in a session of queries on any estimators, the answer to a
    query is `posterior_error` of ITS estimator and ITS score, whatever was asked (of whichever
    estimator) before or after. (Trivial for the model, which is a function; stated because the
    correspondence op `kdeseq` compares the implementation with exactly this.) -/
theorem posteriorError_history_free (pre post : List (Estimator Rat × Rat)) (e : Estimator Rat) (s : Rat) :
    (runQueries (pre ++ (e, s) :: post))[pre.length]? = some (posteriorError e s) := by
  rw [runQueries, List.getElem?_map, List.getElem?_append_right (Nat.le_refl _), Nat.sub_self]
  rfl

theorem runQueries_same (steps : List (Estimator Rat × Rat)) (i j : Nat) (p : Estimator Rat × Rat)
    (hi : steps[i]? = some p) (hj : steps[j]? = some p) :
    (runQueries steps)[i]? = (runQueries steps)[j]? := by
  rw [runQueries, List.getElem?_map, List.getElem?_map, hi, hj]

/-- the seeded defect as a counter-model: a one-entry memo of the last `(score, answer)`, keyed by the
    score only (not by the estimator) -/
def runMemo : Option (Rat × Option Rat) → List (Estimator Rat × Rat) → List (Option Rat)
  | _, [] => []
  | memo, (e, s) :: rest =>
    match memo with
    | some (k, v) =>
      if k = s then v :: runMemo memo rest
      else let r := posteriorError e s; r :: runMemo (some (s, r)) rest
    | none => let r := posteriorError e s; r :: runMemo (some (s, r)) rest

/-- **C14.memo_not_history_free** — non-vacuity of the statement above: the memo variant answers a query
    on a second estimator with the first estimator's value when the score repeats (two estimators with
    grids `1, 0` and `0, 0`, score 0: the session's answers are `1, 0`, the memo's `1, 1`). -/
theorem memo_not_history_free :
    let a : Estimator Rat := { bins := [1, 0], minScore := 0, scoreStep := 1 }
    let b : Estimator Rat := { bins := [0, 0], minScore := 0, scoreStep := 1 }
    runQueries [(a, 0), (b, 0)] = [some 1, some 0] ∧ runMemo none [(a, 0), (b, 0)] = [some 1, some 1] := by
  decide +kernel

end Sage.C14
