import SageModel.Model.C01

/-!
# C01 — End-to-end: every reported PSM row is truthful; planted peptides are found

The executable specification `rowViolation` / `tableViolation` / `pinViolation` / `fragViolation` /
`plantedViolation` (Model/C01.lean) is evaluated by the driver on every row the real `sage` binary
writes. The theorems here are the part of C01 that is a statement about *tables regenerated from
the source on every run* (which header names which field; which default an absent setting gets),
plus sanity theorems about the specification's own parser, so that "the row parses" is not
vacuous. They are re-checked against the current source each time the translator runs.
-/

namespace Sage.C01
open Sage.Gen

/-- in `results.sage.tsv`, header `i` names the field written at position `i` (all 40 columns, in order) -/
theorem tsv_columns_ok : TSV_TABLE = expectedTsv := rfl

/-- the same for `matched_fragments.sage.tsv` -/
theorem fragment_columns_ok : FRAG_TABLE = expectedFrag := rfl

/-- the identifying columns of `results.sage.pin` carry the same fields as their TSV counterparts (psm id, label, scan,
    masses, file, rt, ion mobility, rank) -/
theorem pin_columns_ok : PIN_TABLE.take 9 = expectedPinShared := rfl

/-- the PIN file ends with the peptide and protein columns -/
theorem pin_tail_ok : PIN_TABLE.drop 37 =
    [("Peptide", "peptide.to_string()"),
     ("Proteins", "peptide.proteins(&self.database.decoy_tag,self.database.generate_decoys)")] := rfl

/-- fixed leading columns of `tmt.tsv` and `lfq.tsv` -/
theorem tmt_columns_ok : TMT_TABLE = expectedTmt := rfl
theorem lfq_columns_ok : LFQ_TABLE = expectedLfq := rfl

/-- an absent optional setting gets the documented default (`Input::build`; `quant` and `bruker_config` take their
    type's default) -/
theorem input_defaults_ok : INPUT_DEFAULTS =
    ("quant", ".map(Into::into).unwrap_or_default()") :: expectedInputDefaults
      ++ [("bruker_config", ".unwrap_or_default()")] := rfl

/-- documented database defaults (`Builder::make_parameters`); the `enzyme`, `fasta` and three `prefilter*`
    entries of the regenerated table are not compared -/
theorem database_defaults_ok :
    DATABASE_DEFAULTS.filter (fun kv => kv.1 ≠ "enzyme" && kv.1 ≠ "fasta" && kv.1 ≠ "prefilter_chunk_size"
        && kv.1 ≠ "prefilter" && kv.1 ≠ "prefilter_low_memory") = expectedDatabaseDefaults := by rfl

theorem parseResidues_plain (s : List UInt8) (h : ∀ c ∈ s, isUpper c = true) (fuel : Nat) (hf : s.length < fuel) :
    parseResidues fuel s = some (s.map (fun c => (c, none)), []) := by
  induction s generalizing fuel with
  | nil =>
    cases fuel with
    | zero => cases hf
    | succ f => rfl
  | cons c rest ih =>
    cases fuel with
    | zero => cases hf
    | succ f =>
      have hrest : ∀ d ∈ rest, isUpper d = true := fun d hd => h d (List.mem_cons_of_mem _ hd)
      have hc := h c List.mem_cons_self
      have hne : (c == 45) = false := beq_false_of_ne (by rintro rfl; exact absurd hc (by decide))
      unfold parseResidues
      simp only [hne, hc, Bool.not_true, Bool.false_eq_true, if_false]
      split
      · exact absurd (hrest 91 List.mem_cons_self) (by decide)
      · rw [ih hrest f (Nat.lt_of_succ_lt_succ hf)]; rfl

/-- rendering of a modification-free peptide parses back to itself: all sequences of upper-case
    letters, all lengths (so `peptide_string_unparsable` can only fire on a malformed cell) -/
theorem parsePeptide_plain (s : List UInt8) (h : ∀ c ∈ s, isUpper c = true) :
    parsePeptide s = some { nterm := none, residues := s.map (fun c => (c, none)), cterm := none } := by
  unfold parsePeptide
  split
  rename_i heq
  split at heq
  · exact absurd (h 91 List.mem_cons_self) (by decide)
  · cases heq
    simp only [parseResidues_plain s h (s.length + 1) (Nat.lt_succ_self _)]

/-- non-vacuity: a modified peptide string as the program prints it, `[+42.5]-PEM[+16.25]K` -/
example : (parsePeptide [91,43,52,50,46,53,93,45,80,69,77,91,43,49,54,46,50,53,93,75]).map
    (fun p => (p.nterm.isSome, p.seq, p.residues.map (fun r => r.2.isSome), p.cterm.isSome))
    = some (true, [80, 69, 77, 75], [false, false, true, false], false) := by
  decide +kernel

end Sage.C01
