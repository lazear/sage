import SageModel.Model.C12Rle
import Mathlib.Algebra.Order.Field.Rat
import Mathlib.Tactic.NormNum

/-!
# C12 — Spectrum q-values equal the target-decoy definition

Property text: *Given PSMs in decreasing discriminant-score order, each PSM's spectrum-level
q-value equals the minimum, over all cut-offs at or below its position, of (decoys + 1) / targets
counted down to that cut-off, capped at 1. Hence q-values lie in (0, 1], never decrease down the
list, depend only on the sequence of target/decoy labels, and the returned count equals the
number of PSMs with q <= 0.01.*

All theorems are about `Sage.C12.spectrumQ` (the model of `spectrum_q_value`), for every label
list of every length. "Depends only on the labels" holds by the model's type; that the Rust
function reads nothing else is what the correspondence run (random other fields) checks.
Exact arithmetic in ℚ; the code's single f32 division per PSM is applied by the driver.

The backward pass is studied once, for an arbitrary seed (`cumminFrom m`); `cummin` is the seed `1`.
`cumminFrom` and `hdOr` (the seeded `hd`) are defined in `Model/C12Rle.lean`, beside the run-length
model whose pieces take the running minimum from the right as a parameter: hence the import of that file.
-/

namespace Sage.C12

theorem minOpt_le_iff {m c : Rat} {r : Option Rat} : minOpt m r ≤ c ↔ m ≤ c ∨ ∃ x, r = some x ∧ x ≤ c := by
  cases r <;> simp [minOpt]

theorem minOpt_le (m : Rat) (r : Option Rat) : minOpt m r ≤ m :=
  minOpt_le_iff.mpr (.inl (le_refl m))

theorem minOpt_mono {m m' : Rat} (h : m' ≤ m) (r : Option Rat) : minOpt m' r ≤ minOpt m r := by
  cases r with
  | none => exact h
  | some x => exact min_le_min h (le_refl x)

theorem hd_eq_hdOr (l : List Rat) : hd l = hdOr 1 l := by cases l <;> rfl

theorem cummin_eq_cumminFrom (rs : List (Option Rat)) : cummin rs = cumminFrom 1 rs := by
  induction rs with
  | nil => rfl
  | cons r rs ih => simp only [cummin, cumminFrom, ih, hd_eq_hdOr]

theorem spectrumQ_fst (labels : List Bool) :
    (spectrumQ labels).1 = cumminFrom 1 ((counts 1 0 labels).map ratio) :=
  cummin_eq_cumminFrom _

theorem cumminFrom_length (m : Rat) (rs : List (Option Rat)) : (cumminFrom m rs).length = rs.length := by
  induction rs with
  | nil => rfl
  | cons r rs ih => exact congrArg (· + 1) ih

theorem hdOr_cumminFrom (m : Rat) (rs : List (Option Rat)) :
    hdOr m (cumminFrom m rs) = rs.foldr (fun r a => minOpt a r) m := by
  induction rs with
  | nil => rfl
  | cons r rs ih => exact congrArg (minOpt · r) ih

theorem cumminFrom_getD (m : Rat) (rs : List (Option Rat)) (i : Nat) :
    (cumminFrom m rs)[i]?.getD m = hdOr m (cumminFrom m (rs.drop i)) := by
  induction rs generalizing i with
  | nil => cases i <;> rfl
  | cons r rs ih =>
    cases i with
    | zero => rfl
    | succ i => exact ih i

theorem cumminFrom_getElem? (m : Rat) (rs : List (Option Rat)) (i : Nat) (h : i < rs.length) :
    (cumminFrom m rs)[i]? = some (hdOr m (cumminFrom m (rs.drop i))) := by
  rw [← cumminFrom_getD, List.getElem?_eq_getElem (by rw [cumminFrom_length]; exact h)]
  rfl

theorem cumminFrom_forall {P : Rat → Prop} {m : Rat} {rs : List (Option Rat)} (hm : P m)
    (hstep : ∀ a, P a → ∀ r ∈ rs, P (minOpt a r)) :
    P (hdOr m (cumminFrom m rs)) ∧ ∀ q ∈ cumminFrom m rs, P q := by
  induction rs with
  | nil => exact ⟨hm, fun _ h => nomatch h⟩
  | cons r rs ih =>
    obtain ⟨h1, h2⟩ := ih fun a ha r' hr' => hstep a ha r' (List.mem_cons_of_mem r hr')
    have h := hstep _ h1 r List.mem_cons_self
    exact ⟨h, List.forall_mem_cons.mpr ⟨h, h2⟩⟩

theorem hdOr_cumminFrom_le (m : Rat) (rs : List (Option Rat)) : hdOr m (cumminFrom m rs) ≤ m :=
  (cumminFrom_forall (P := (· ≤ m)) (le_refl m) fun a ha r _ => (minOpt_le a r).trans ha).1

theorem cumminFrom_sorted (m : Rat) (rs : List (Option Rat)) :
    (cumminFrom m rs).Pairwise (· ≤ ·) ∧ ∀ q ∈ cumminFrom m rs, hdOr m (cumminFrom m rs) ≤ q := by
  induction rs with
  | nil => exact ⟨.nil, fun _ h => nomatch h⟩
  | cons r rs ih =>
    have hle : ∀ q ∈ cumminFrom m rs, minOpt (hdOr m (cumminFrom m rs)) r ≤ q :=
      fun q hq => (minOpt_le _ r).trans (ih.2 q hq)
    exact ⟨List.pairwise_cons.mpr ⟨hle, ih.1⟩, List.forall_mem_cons.mpr ⟨le_refl _, hle⟩⟩

theorem hdOr_append (m : Rat) (a b : List Rat) : hdOr m (a ++ b) = hdOr (hdOr m b) a := by
  cases a <;> rfl

theorem cumminFrom_append (m : Rat) (a b : List (Option Rat)) :
    cumminFrom m (a ++ b) = cumminFrom (hdOr m (cumminFrom m b)) a ++ cumminFrom m b := by
  induction a with
  | nil => rfl
  | cons r a ih =>
    simp only [List.cons_append, cumminFrom, ih, hdOr_append]

theorem cumminFrom_snoc (m : Rat) (A : List (Option Rat)) (a : Option Rat) :
    cumminFrom m (A ++ [a]) = cumminFrom (minOpt m a) A ++ [minOpt m a] :=
  cumminFrom_append m A [a]

theorem cumminFrom_mono_seed {m m' : Rat} (h : m' ≤ m) (rs : List (Option Rat)) :
    hdOr m' (cumminFrom m' rs) ≤ hdOr m (cumminFrom m rs) ∧
    List.Forall₂ (· ≤ ·) (cumminFrom m' rs) (cumminFrom m rs) := by
  induction rs with
  | nil => exact ⟨h, .nil⟩
  | cons r rs ih =>
    have hh := minOpt_mono ih.1 r
    exact ⟨hh, .cons hh ih.2⟩

theorem counts_spec (d t : Nat) (l : List Bool) (i : Nat) (h : i < l.length) :
    (counts d t l)[i]? = some (d + ((l.take (i+1)).filter id).length,
                               t + ((l.take (i+1)).filter (fun b => !b)).length) := by
  induction l generalizing d t i with
  | nil => exact absurd h (Nat.not_lt_zero i)
  | cons b bs ih =>
    cases i with
    | zero => cases b <;> rfl
    | succ i =>
      refine (ih _ _ i (Nat.lt_of_succ_lt_succ h)).trans ?_
      cases b <;> simp only [List.take_succ_cons, List.filter_cons, id_eq, Bool.not_true, Bool.not_false,
        Bool.false_eq_true, if_true, if_false, List.length_cons] <;> rw [Nat.add_right_comm] <;> rfl

theorem counts_length (d t : Nat) (l : List Bool) : (counts d t l).length = l.length := by
  induction l generalizing d t with
  | nil => rfl
  | cons b bs ih => exact congrArg (· + 1) (ih _ _)

theorem counts_append (d t : Nat) (a b : List Bool) :
    counts d t (a ++ b) =
      counts d t a ++ counts (d + (a.filter id).length) (t + (a.filter (fun x => !x)).length) b := by
  induction a generalizing d t with
  | nil => rfl
  | cons x a ih =>
    rw [List.cons_append, counts, counts, ih]
    cases x <;> simp only [List.cons_append, List.filter_cons, id_eq, Bool.not_true, Bool.not_false,
      Bool.false_eq_true, if_true, if_false, List.length_cons] <;> rw [Nat.add_right_comm] <;> rfl

theorem counts_bounds (d t : Nat) (l : List Bool) :
    ∀ c ∈ counts d t l, d ≤ c.1 ∧ c.1 + c.2 ≤ d + t + l.length := by
  induction l generalizing d t with
  | nil => exact fun _ h => nomatch h
  | cons b bs ih =>
    refine List.forall_mem_cons.mpr ⟨?_, fun c hc => ?_⟩
    · cases b <;> simp only [List.length_cons, if_true, Bool.false_eq_true, if_false] <;> omega
    · have := ih _ _ c hc
      cases b <;> simp only [List.length_cons, if_true, Bool.false_eq_true, if_false] at this ⊢ <;> omega

theorem ratios_eq (labels : List Bool) :
    (counts 1 0 labels).map ratio = (List.range labels.length).map (fdrAt labels) := by
  apply List.ext_getElem?
  intro i
  rw [List.getElem?_map, List.getElem?_map]
  by_cases h : i < labels.length
  · rw [counts_spec 1 0 labels i h, List.getElem?_range h]
    simp only [Option.map_some, fdrAt, nDecoy, nTarget, Nat.zero_add]
  · rw [List.getElem?_eq_none (by rw [counts_length]; omega), List.getElem?_eq_none (by rw [List.length_range]; omega)]
    rfl

theorem drop_range_map {β : Type} (f : Nat → β) (n i : Nat) :
    ((List.range n).map f).drop i = (List.range (n - i)).map (fun d => f (i + d)) := by
  rw [← List.map_drop, List.range_eq_range', List.drop_range', List.range'_eq_map_range, List.map_map]
  simp only [Nat.mul_one, Nat.zero_add, Function.comp_def]

theorem minOpt_ratio_pos {a : Rat} (ha : 0 < a) {c : Nat × Nat} (hc : 0 < c.1) : 0 < minOpt a (ratio c) := by
  unfold ratio
  split
  · exact ha
  · next h => exact lt_min ha (div_pos (Nat.cast_pos.mpr hc) (Nat.cast_pos.mpr (Nat.pos_of_ne_zero h)))

/-- **C12.q_eq_spec** — every q-value equals the definition: the minimum over all cut-offs at or
    below the PSM of (decoys + 1)/targets, capped at 1 -/
theorem q_eq_spec (labels : List Bool) (i : Nat) (h : i < labels.length) :
    (spectrumQ labels).1[i]? = some (qSpec labels i) := by
  rw [spectrumQ_fst, cumminFrom_getElem? _ _ i (by rw [List.length_map, counts_length]; exact h),
    hdOr_cumminFrom, ratios_eq, drop_range_map]
  rfl

theorem q_length (labels : List Bool) : (spectrumQ labels).1.length = labels.length := by
  rw [spectrumQ_fst, cumminFrom_length, List.length_map, counts_length]

/-- **C12.q_range** — every q-value lies in (0, 1] -/
theorem q_range (labels : List Bool) : ∀ q ∈ (spectrumQ labels).1, 0 < q ∧ q ≤ 1 := by
  rw [spectrumQ_fst]
  refine (cumminFrom_forall (P := fun q => 0 < q ∧ q ≤ 1) ⟨one_pos, le_refl 1⟩ fun a ha r hr => ?_).2
  obtain ⟨c, hc, rfl⟩ := List.mem_map.mp hr
  exact ⟨minOpt_ratio_pos ha.1 (counts_bounds 1 0 labels c hc).1, (minOpt_le a _).trans ha.2⟩

/-- **C12.q_monotone** — q-values never decrease down the list -/
theorem q_monotone (labels : List Bool) : (spectrumQ labels).1.Pairwise (· ≤ ·) := by
  rw [spectrumQ_fst]; exact (cumminFrom_sorted 1 _).1

/-- **C12.count_eq** — the returned count is the number of PSMs (of either label) with q ≤ 0.01 -/
theorem count_eq (labels : List Bool) :
    (spectrumQ labels).2 = ((spectrumQ labels).1.filter (fun q => decide (q ≤ 1/100))).length := rfl

/-- **C12.model_meets_spec** — the executable checker the driver applies to the implementation's
    output accepts the model's output, for every input (so a rejection is about the implementation) -/
theorem model_meets_spec (labels : List Bool) :
    specOk labels (spectrumQ labels).1 (spectrumQ labels).2 = true := by
  unfold specOk
  simp only [Bool.and_eq_true, beq_iff_eq, List.all_eq_true, List.mem_range]
  exact ⟨⟨q_length labels, fun i hi => q_eq_spec labels i hi⟩, count_eq labels⟩

/-- non-vacuity / sanity: T T D T D D -/
example : (spectrumQ [false, false, true, false, true, true]).1 = [1/2, 1/2, 2/3, 2/3, 1, 1] := by
  decide +kernel

/-- non-vacuity: an all-decoy list (every ratio is `+∞`) gets q = 1 everywhere -/
example : (spectrumQ [true, true]).1 = [1, 1] := by
  decide +kernel

end Sage.C12
