import SageModel.Model.C05
import Mathlib.Data.List.Basic
import Mathlib.Data.List.Nodup
import Mathlib.Data.List.Perm.Subperm
import Mathlib.Order.Nat

/-!
# C05 — In-silico digestion and FASTA reading follow the enzyme rules exactly

Digestion: the final loop keeps the first site that reads a string; the site list is windows over one sorted list
of boundaries, and these windows are the specification's fully enzymatic spans. `Rel` ties a site list to a
candidate list, and every clause of the specification follows from it.

FASTA: the state machine is run over laid-out records, then compared with the specification's right fold on every
text, `lines` and `splitNL` agreeing up to blank lines.

The specification is the one of `SageModel/Model/C05.lean`, which the driver evaluates on sage's output; the regex
engine and non-ASCII text are outside the model.
-/

namespace Sage.C05

-- found last otherwise, after a long walk through the order classes; every `==` on residues pays for it
attribute [local instance 1100] instLawfulBEq LawfulBEq.toReflBEq

/-- the peptide a site yields if it passes `get(a..b)` and the length bounds -/
def good (par : Params) (s : Seq) (x : Site) : Option Seq :=
  (getRange s x.start x.stop).filter fun w => lenOk par w.length

def digestOf (s : Seq) (x : Site) (w : Seq) : Digest := ⟨w, x.mc, posOf s.length x.start x.stop, x.semi⟩

theorem digestLoop_none {par : Params} {s : Seq} {x : Site} (h : good par s x = none) (rest : List Site)
    (seen : List Seq) : digestLoop par s (x :: rest) seen = digestLoop par s rest seen := by
  rw [digestLoop]
  cases hr : getRange s x.start x.stop with
  | none => rfl
  | some v => simp only [Option.filter_eq_none_iff.mp h v hr, Bool.false_and, Bool.false_eq_true, if_false]

theorem digestLoop_some {par : Params} {s : Seq} {x : Site} {w : Seq} (h : good par s x = some w)
    (rest : List Site) (seen : List Seq) :
    digestLoop par s (x :: rest) seen =
      if w ∈ seen then digestLoop par s rest seen else digestOf s x w :: digestLoop par s rest (w :: seen) := by
  obtain ⟨hr, hl⟩ := Option.filter_eq_some_iff.mp h
  rw [digestLoop, hr]
  simp only [hl, List.contains_eq_mem, Bool.true_and, Bool.not_eq_eq_eq_not, Bool.not_true,
    decide_eq_false_iff_not, ite_not, digestOf]

theorem sub_length {s : Seq} {a b : Nat} (h : b ≤ s.length) : (sub s a b).length = b - a := by
  rw [sub, List.length_take, List.length_drop]
  exact Nat.min_eq_left (Nat.sub_le_sub_right h a)

theorem lenOk_iff {par : Params} {l : Nat} :
    lenOk par l = true ↔ par.minLen ≤ l ∧ l ≤ par.maxLen ∧ 0 < l := by
  simp only [lenOk, Bool.and_eq_true, decide_eq_true_eq, and_assoc]

theorem good_iff {par : Params} {s : Seq} {x : Site} {w : Seq} :
    good par s x = some w ↔
      x.start < x.stop ∧ x.stop ≤ s.length ∧ lenOk par (x.stop - x.start) = true ∧ w = sub s x.start x.stop := by
  rw [good, Option.filter_eq_some_iff, getRange, Option.ite_none_right_eq_some]
  constructor
  · rintro ⟨⟨⟨_, h2⟩, h⟩, hl⟩
    cases h
    rw [sub_length h2] at hl
    exact ⟨Nat.lt_of_sub_pos (lenOk_iff.mp hl).2.2, h2, hl, rfl⟩
  · rintro ⟨h1, h2, hl, rfl⟩
    exact ⟨⟨⟨h1.le, h2⟩, rfl⟩, by rwa [sub_length h2]⟩

/-- First occurrence wins: for a list of sites sorted by a reflexive relation `R`, the site a digest
    comes from is `R`-below every site that reads the same string. -/
theorem loop_min {R : Site → Site → Prop} (hR : ∀ x, R x x) {par : Params} {s : Seq} {L : List Site}
    {seen : List Seq} (hL : L.Pairwise R) {d : Digest} (h : d ∈ digestLoop par s L seen) :
    ∃ x ∈ L, ∃ w, good par s x = some w ∧ d = digestOf s x w ∧ w ∉ seen ∧
      ∀ y ∈ L, good par s y = some w → R x y := by
  induction L generalizing seen with
  | nil => cases h
  | cons x rest ih =>
    obtain ⟨hx, hrest⟩ := List.pairwise_cons.mp hL
    -- `d` is produced later, from a list `seen'` that contains whatever `x` reads
    have later : ∀ seen', d ∈ digestLoop par s rest seen' → (∀ w ∉ seen', good par s x ≠ some w ∧ w ∉ seen) →
        ∃ x' ∈ x :: rest, ∃ w, good par s x' = some w ∧ d = digestOf s x' w ∧ w ∉ seen ∧
          ∀ y ∈ x :: rest, good par s y = some w → R x' y := by
      intro seen' h hs
      obtain ⟨x', hx', w, hg, hd, hw, hmin⟩ := ih hrest h
      refine ⟨x', List.mem_cons_of_mem _ hx', w, hg, hd, (hs w hw).2, ?_⟩
      intro y hy hgy
      rcases List.mem_cons.mp hy with rfl | hy
      · exact absurd hgy (hs w hw).1
      · exact hmin y hy hgy
    cases hg : good par s x with
    | none =>
      rw [digestLoop_none hg] at h
      exact later seen h fun _ hv => ⟨by simp [hg], hv⟩
    | some w =>
      rw [digestLoop_some hg] at h
      split at h
      next hw => exact later seen h fun v hv => ⟨fun e => hv (Option.some.inj (hg.symm.trans e) ▸ hw), hv⟩
      next hw =>
        rcases List.mem_cons.mp h with rfl | h
        · refine ⟨x, List.mem_cons_self, w, hg, rfl, hw, ?_⟩
          intro y hy _
          rcases List.mem_cons.mp hy with rfl | hy
          · exact hR _
          · exact hx y hy
        · exact later (w :: seen) h fun v hv =>
            ⟨fun e => hv (Option.some.inj (hg.symm.trans e) ▸ List.mem_cons_self),
              fun hm => hv (List.mem_cons_of_mem _ hm)⟩

theorem loop_nodup (par : Params) (s : Seq) (L : List Site) (seen : List Seq) :
    ((digestLoop par s L seen).map (·.seq)).Nodup := by
  induction L generalizing seen with
  | nil => exact List.nodup_nil
  | cons x rest ih =>
    cases hg : good par s x with
    | none => rw [digestLoop_none hg]; exact ih seen
    | some w =>
      rw [digestLoop_some hg]
      split
      · exact ih seen
      · rw [List.map_cons, List.nodup_cons]
        refine ⟨fun hm => ?_, ih _⟩
        obtain ⟨d, hd, e⟩ := List.mem_map.mp hm
        obtain ⟨_, _, v, _, rfl, hv, _⟩ := loop_min (R := fun _ _ => True) (fun _ => trivial)
          (List.pairwise_of_forall_mem_list fun _ _ _ _ => trivial) hd
        exact hv ((show v = w from e) ▸ List.mem_cons_self)

theorem loop_complete {par : Params} {s : Seq} {L : List Site} (seen : List Seq) {x : Site} {w : Seq}
    (hx : x ∈ L) (hw : good par s x = some w) :
    w ∈ seen ∨ ∃ d ∈ digestLoop par s L seen, d.seq = w := by
  induction L generalizing seen with
  | nil => simp at hx
  | cons y rest ih =>
    rcases List.mem_cons.mp hx with rfl | hx
    · rw [digestLoop_some hw]
      split
      next hs => exact Or.inl hs
      next => exact Or.inr ⟨_, List.mem_cons_self, rfl⟩
    · cases hg : good par s y with
      | none => rw [digestLoop_none hg]; exact ih seen hx
      | some v =>
        rw [digestLoop_some hg]
        split
        · exact ih seen hx
        · rcases ih (v :: seen) hx with h | ⟨d, hd, e⟩
          · rcases List.mem_cons.mp h with rfl | h
            · exact Or.inr ⟨_, List.mem_cons_self, rfl⟩
            · exact Or.inl h
          · exact Or.inr ⟨d, List.mem_cons_of_mem _ hd, e⟩

def pairs : List Nat → List Site
  | a :: b :: t => ⟨a, b, 0, false⟩ :: pairs (b :: t)
  | _ => []

theorem sitesLoop_eq (e : Enzyme) (s : Seq) (ms : List (Nat × Nat)) (left : Nat) :
    sitesLoop e s ms left = pairs (left ::
      (ms.map fun m => if e.cTerminal then m.2 else m.1).filter (fun r => !skipAt e s r) ++ [s.length]) := by
  induction ms generalizing left with
  | nil => rfl
  | cons m rest ih =>
    rw [sitesLoop, List.map_cons, List.filter_cons]
    generalize (if e.cTerminal = true then m.2 else m.1) = r
    cases skipAt e s r
    · rw [ih r]; rfl
    · exact ih left

/-- position `p` (possibly `0` or `n`) is a candidate `right` value: the end of a match for a
    C-terminal enzyme, its start otherwise -/
def isRight (e : Enzyme) (s : Seq) (p : Nat) : Bool :=
  match e.pat with
  | .eos => p == s.length
  | .cls set => if e.cTerminal then decide (0 < p) && inSet set s[p - 1]? else inSet set s[p]?

def cutAt (e : Enzyme) (s : Seq) (p : Nat) : Bool := !skipAt e s p && isRight e s p

theorem rights_eq (e : Enzyme) (s : Seq) :
    ((findIter e.pat s).map fun m => if e.cTerminal then m.2 else m.1) =
      (List.range (s.length + 1)).filter (isRight e s) := by
  unfold isRight findIter
  cases e.pat with
  | eos =>
    dsimp only
    -- the one empty match at the end
    rw [List.map_cons, List.map_nil, ite_self, List.range_succ, List.filter_append,
      List.filter_eq_nil_iff.mpr fun p hp => by rw [beq_iff_eq]; exact Nat.ne_of_lt (List.mem_range.mp hp),
      List.filter_singleton, beq_self_eq_true]
    rfl
  | cls set =>
    dsimp only
    rw [List.map_map]
    cases e.cTerminal with
    | true =>
      simp only [if_true]
      -- the ends of the matches: shift by one; position `0` is no end
      rw [List.range_succ_eq_map, List.filter_cons, List.filter_map]
      exact congrArg _ (List.filter_congr fun p _ => by
        rw [Function.comp_apply, Nat.succ_eq_add_one, Nat.add_sub_cancel, decide_eq_true (Nat.succ_pos p),
          Bool.true_and])
    | false =>
      simp only [Bool.false_eq_true, if_false]
      -- the starts of the matches; position `n` holds no residue
      rw [List.range_succ, List.filter_append, List.filter_singleton, List.getElem?_eq_none (Nat.le_refl _)]
      exact (List.map_id' _).trans (List.append_nil _).symm

def bsOf (e : Enzyme) (s : Seq) : List Nat :=
  0 :: (List.range (s.length + 1)).filter (cutAt e s) ++ [s.length]

theorem cleavageSites_eq (e : Enzyme) (s : Seq) : e.cleavageSites s = pairs (bsOf e s) := by
  rw [Enzyme.cleavageSites, sitesLoop_eq, rights_eq, List.filter_filter]
  rfl

theorem cutAt_interior (e : Enzyme) {s : Seq} {p : Nat} (h0 : 0 < p) (hn : p < s.length) :
    cutAt e s p = isCutPos e s p := by
  have h1 : isRight e s p = trig e s p := by
    unfold isRight trig
    cases e.pat with
    | eos => exact beq_false_of_ne (Nat.ne_of_lt hn)
    | cls _ => rfl
  have h2 : skipAt e s p = restricted e s p := by
    unfold skipAt restricted
    cases e.skip with
    | none => rfl
    | some k => rw [decide_eq_true hn]; rfl
  rw [cutAt, isCutPos, h1, h2, decide_eq_true h0, decide_eq_true hn, Bool.and_comm]
  rfl

/-- `(bs[i], bs[i+k+1])` for every `i` -/
def spansK (k : Nat) : List Nat → List (Nat × Nat)
  | [] => []
  | a :: rest => (rest[k]?.map fun b => (a, b)).toList ++ spansK k rest

theorem pairs_get_stop (a : Nat) (rest : List Nat) (k : Nat) :
    ((pairs (a :: rest))[k]?).map Site.stop = rest[k]? := by
  induction rest generalizing a k with
  | nil => rfl
  | cons b t ih =>
    cases k with
    | zero => rfl
    | succ k => exact ih b k

theorem windows_pairs (k : Nat) (bs : List Nat) :
    windows k (pairs bs) = (spansK k bs).map (fun ab => ⟨ab.1, ab.2, k, false⟩) := by
  induction bs with
  | nil => rfl
  | cons a rest ih =>
    cases rest with
    | nil => rfl
    | cons b t =>
      have hs := pairs_get_stop a (b :: t) k
      rw [pairs] at hs ⊢
      rw [windows, spansK, ih, ← hs]
      cases (({ start := a, stop := b, mc := 0, semi := false } : Site) :: pairs (b :: t))[k]? <;> rfl

theorem windows_zero_pairs (bs : List Nat) : windows 0 (pairs bs) = pairs bs := by
  induction bs with
  | nil => rfl
  | cons a rest ih =>
    cases rest with
    | nil => rfl
    | cons b t => rw [pairs, windows, ih]; rfl

theorem mem_windows {k : Nat} {bs : List Nat} {x : Site} :
    x ∈ windows k (pairs bs) ↔ ∃ a b, (a, b) ∈ spansK k bs ∧ x = ⟨a, b, k, false⟩ := by
  rw [windows_pairs, List.mem_map]
  constructor
  · rintro ⟨⟨a, b⟩, h, rfl⟩; exact ⟨a, b, h, rfl⟩
  · rintro ⟨a, b, h, rfl⟩; exact ⟨(a, b), h, rfl⟩

theorem getElem?_decomp {α : Type} {l : List α} {k : Nat} {b : α} :
    l[k]? = some b ↔ ∃ mid post, l = mid ++ b :: post ∧ mid.length = k := by
  constructor
  · intro h
    obtain ⟨hk, rfl⟩ := List.getElem?_eq_some_iff.mp h
    exact ⟨l.take k, l.drop (k + 1), by rw [List.getElem_cons_drop, List.take_append_drop],
      List.length_take_of_le hk.le⟩
  · rintro ⟨mid, post, rfl, rfl⟩
    rw [List.getElem?_append_right (Nat.le_refl _), Nat.sub_self]
    rfl

theorem spansK_mem {k : Nat} {bs : List Nat} {a b : Nat} :
    (a, b) ∈ spansK k bs ↔ ∃ pre mid post, bs = pre ++ a :: (mid ++ b :: post) ∧ mid.length = k := by
  induction bs with
  | nil => simp [spansK]
  | cons c rest ih =>
    rw [spansK, List.mem_append, ih, Option.mem_toList, Option.map_eq_some_iff]
    constructor
    · rintro (⟨_, hz, h⟩ | ⟨pre, mid, post, rfl, hm⟩)
      · cases h
        obtain ⟨mid, post, rfl, hm⟩ := getElem?_decomp.mp hz
        exact ⟨[], mid, post, rfl, hm⟩
      · exact ⟨c :: pre, mid, post, rfl, hm⟩
    · rintro ⟨_ | ⟨p, pre⟩, mid, post, h, hm⟩ <;> cases h
      · exact Or.inl ⟨b, getElem?_decomp.mpr ⟨mid, post, rfl, hm⟩, rfl⟩
      · exact Or.inr ⟨pre, mid, post, rfl, hm⟩
theorem isBd_iff {e : Enzyme} {s : Seq} {p : Nat} :
    isBd e s p = true ↔ p = 0 ∨ p = s.length ∨ isCutPos e s p = true := by
  simp only [isBd, Bool.or_eq_true, beq_iff_eq, or_assoc]

theorem isCutPos_interior {e : Enzyme} {s : Seq} {p : Nat} (h : isCutPos e s p = true) :
    0 < p ∧ p < s.length := by
  simp only [isCutPos, Bool.and_eq_true, decide_eq_true_eq] at h
  exact h.1.1

theorem mem_bsOf {e : Enzyme} {s : Seq} {p : Nat} :
    p ∈ bsOf e s ↔ p ≤ s.length ∧ isBd e s p = true := by
  simp only [bsOf, List.cons_append, List.mem_cons, List.mem_append, List.mem_filter, List.mem_range,
    Nat.lt_succ_iff, List.not_mem_nil, or_false, isBd_iff]
  constructor
  · rintro (rfl | ⟨hp, hc⟩ | rfl)
    · exact ⟨Nat.zero_le _, Or.inl rfl⟩
    · refine ⟨hp, ?_⟩
      by_cases h0 : p = 0
      · exact Or.inl h0
      by_cases hn : p = s.length
      · exact Or.inr (Or.inl hn)
      exact Or.inr (Or.inr (by
        rwa [← cutAt_interior e (Nat.pos_of_ne_zero h0) (Nat.lt_of_le_of_ne hp hn)]))
    · exact ⟨Nat.le_refl _, Or.inr (Or.inl rfl)⟩
  · rintro ⟨hp, rfl | rfl | hc⟩
    · exact Or.inl rfl
    · exact Or.inr (Or.inr rfl)
    · obtain ⟨h0, hn⟩ := isCutPos_interior hc
      exact Or.inr (Or.inl ⟨hp, by rwa [cutAt_interior e h0 hn]⟩)

theorem bs_sorted (e : Enzyme) (s : Seq) : (bsOf e s).Pairwise (· ≤ ·) := by
  unfold bsOf
  rw [List.cons_append, List.pairwise_cons]
  refine ⟨fun _ _ => Nat.zero_le _, ?_⟩
  rw [List.pairwise_append]
  refine ⟨?_, by simp, ?_⟩
  · exact (List.pairwise_lt_range.imp (fun h => Nat.le_of_lt h)).filter _
  · intro x hx y hy
    rw [List.mem_singleton.mp hy]
    exact Nat.le_of_lt_succ (List.mem_range.mp (List.mem_filter.mp hx).1)

/-- the positions `internal` counts over -/
theorem mem_inner {i j x : Nat} : x ∈ List.range' (i + 1) (j - i - 1) ↔ i < x ∧ x < j := by
  rw [List.mem_range'_1, Nat.sub_sub]
  exact and_congr_right fun h => (Nat.sub_lt_iff_lt_add' h).symm.trans (Nat.sub_lt_sub_iff_right h)

theorem internal_le (e : Enzyme) (s : Seq) {i j : Nat} (l : List Nat)
    (h : ∀ x, i < x → x < j → isCutPos e s x = true → x ∈ l) : internal e s i j ≤ l.length :=
  (List.subperm_of_subset ((List.nodup_range' 1).filter _) fun x hx => by
    obtain ⟨hr, hc⟩ := List.mem_filter.mp hx
    obtain ⟨h1, h2⟩ := mem_inner.mp hr
    exact h x h1 h2 hc).length_le

theorem internal_mono (e : Enzyme) (s : Seq) {p i j q : Nat} (h1 : p ≤ i) (h2 : j ≤ q) :
    internal e s i j ≤ internal e s p q :=
  internal_le e s _ fun _ h3 h4 hc =>
    List.mem_filter.mpr ⟨mem_inner.mpr ⟨Nat.lt_of_le_of_lt h1 h3, Nat.lt_of_lt_of_le h4 h2⟩, hc⟩

theorem win_sound {e : Enzyme} {s : Seq} {k a b : Nat} (h : (a, b) ∈ spansK k (bsOf e s)) :
    isBd e s a = true ∧ isBd e s b = true ∧ b ≤ s.length ∧ internal e s a b ≤ k := by
  obtain ⟨pre, mid, post, hbs, rfl⟩ := spansK_mem.mp h
  have ha := (mem_bsOf (p := a)).mp (by rw [hbs]; simp)
  have hb := (mem_bsOf (p := b)).mp (by rw [hbs]; simp)
  refine ⟨ha.2, hb.2, hb.1, ?_⟩
  -- the list is sorted, so a cleavage position strictly between `a` and `b` lies in `mid`
  have hs := bs_sorted e s
  rw [hbs, List.pairwise_append, List.pairwise_cons, List.pairwise_append, List.pairwise_cons] at hs
  obtain ⟨_, ⟨_, _, ⟨hpost, _⟩, _⟩, hpre⟩ := hs
  refine internal_le e s mid fun p h1 h2 hc => ?_
  have hpb : p ∈ bsOf e s :=
    mem_bsOf.mpr ⟨(h2.trans_le hb.1).le, isBd_iff.mpr (Or.inr (Or.inr hc))⟩
  rw [hbs] at hpb
  simp only [List.mem_append, List.mem_cons] at hpb
  rcases hpb with h | rfl | h | rfl | h
  · exact absurd (hpre p h a List.mem_cons_self) (Nat.not_le.mpr h1)
  · exact absurd h1 (Nat.lt_irrefl _)
  · exact h
  · exact absurd h2 (Nat.lt_irrefl _)
  · exact absurd (hpost p h) (Nat.not_le.mpr h2)

/-- the list `0 :: cuts ++ [n]` split at two of its members `a < b`: between them lie the cuts
    strictly between -/
theorem bounds_split (c : Nat → Bool) (n a b m : Nat) (hm : a + 1 + m = b) (hbn : b ≤ n)
    (ha : a = 0 ∨ c a = true) (hb : b = n ∨ c b = true) :
    ∃ pre post, 0 :: (List.range (n + 1)).filter c ++ [n] =
      pre ++ a :: ((List.range' (a + 1) m).filter c ++ b :: post) := by
  subst hm
  obtain ⟨r, rfl⟩ := Nat.exists_eq_add_of_le hbn
  have hsplit : List.range (a + 1 + m + r + 1) =
      List.range (a + 1) ++ (List.range' (a + 1) m ++ List.range' (a + 1 + m) (r + 1)) := by
    have h := @List.range'_append_1 0 (a + 1) (m + (r + 1))
    rw [Nat.zero_add] at h
    rw [List.range_eq_range', List.range_eq_range', List.range'_append_1, h, Nat.add_assoc (a + 1),
      Nat.add_assoc (a + 1)]
    rfl
  obtain ⟨pre, hpre⟩ : ∃ pre, 0 :: (List.range (a + 1)).filter c = pre ++ [a] := by
    rw [List.range_succ, List.filter_append, List.filter_singleton]
    rcases ha with rfl | ha
    · cases c 0
      · exact ⟨[], rfl⟩
      · exact ⟨[0], rfl⟩
    · rw [ha]; exact ⟨0 :: (List.range a).filter c, rfl⟩
  obtain ⟨post, hpost⟩ : ∃ post, (List.range' (a + 1 + m) (r + 1)).filter c ++ [a + 1 + m + r] =
      (a + 1 + m) :: post := by
    rw [List.range'_succ, List.filter_cons]
    rcases hb with hb | hb
    · obtain rfl : r = 0 := Nat.add_left_cancel hb.symm
      cases c (a + 1 + m)
      · exact ⟨[], rfl⟩
      · exact ⟨[a + 1 + m], rfl⟩
    · exact ⟨_, by rw [if_pos hb]; rfl⟩
  refine ⟨pre, post, ?_⟩
  rw [hsplit, List.filter_append, List.filter_append, ← List.cons_append, hpre, List.append_assoc,
    List.append_assoc, List.append_assoc, hpost]
  rfl

/-- a fully enzymatic span is the window whose size is its number of internal cleavage positions plus one -/
theorem win_complete {e : Enzyme} {s : Seq} {a b : Nat} (hab : a < b) (hbn : b ≤ s.length)
    (ha : isBd e s a = true) (hb : isBd e s b = true) :
    (a, b) ∈ spansK (internal e s a b) (bsOf e s) := by
  have hcut : ∀ p, isCutPos e s p = true → cutAt e s p = true := fun p hc => by
    obtain ⟨h0, hn⟩ := isCutPos_interior hc
    rwa [cutAt_interior e h0 hn]
  obtain ⟨pre, post, h⟩ := bounds_split (cutAt e s) s.length a b (b - a - 1)
    (by rw [Nat.sub_sub, Nat.add_sub_cancel' hab]) hbn
    (by rcases isBd_iff.mp ha with h | h | h
        · exact Or.inl h
        · exact absurd (h ▸ hab) (Nat.not_lt.mpr hbn)
        · exact Or.inr (hcut a h))
    (by rcases isBd_iff.mp hb with h | h | h
        · exact absurd (h ▸ hab) (Nat.not_lt_zero a)
        · exact Or.inl h
        · exact Or.inr (hcut b h))
  refine spansK_mem.mpr ⟨pre, _, post, h, congrArg List.length (List.filter_congr fun p hp => ?_)⟩
  obtain ⟨h1, h2⟩ := mem_inner.mp hp
  exact cutAt_interior e (Nat.zero_lt_of_lt h1) (h2.trans_le hbn)

theorem sub_get (s : Seq) (a b y : Nat) (hy : y < b - a) : (sub s a b)[y]? = s[a + y]? := by
  rw [sub, List.getElem?_take, if_pos hy, List.getElem?_drop]

theorem isCutPos_congr (e : Enzyme) {t t' : Seq} {p p' : Nat} (h0 : 0 < p) (h0' : 0 < p')
    (hl : p < t.length) (hl' : p' < t'.length) (h1 : t[p]? = t'[p']?) (h2 : t[p - 1]? = t'[p' - 1]?) :
    isCutPos e t p = isCutPos e t' p' := by
  simp only [isCutPos, trig, restricted, h0, h0', hl, hl', h1, h2]

theorem isCutPos_sub (e : Enzyme) (s : Seq) (a b x : Nat) (hb : b ≤ s.length) (h1 : 0 < x)
    (h2 : x < b - a) : isCutPos e (sub s a b) x = isCutPos e s (a + x) := by
  refine isCutPos_congr e h1 (Nat.add_pos_right a h1) (by rw [sub_length hb]; exact h2)
    ((Nat.add_lt_of_lt_sub' h2).trans_le hb) (sub_get s a b x h2) ?_
  rw [sub_get s a b (x - 1) (Nat.lt_of_le_of_lt (Nat.sub_le x 1) h2), Nat.add_sub_assoc h1]

theorem internal_sub (e : Enzyme) {s : Seq} {a b : Nat} (hb : b ≤ s.length) :
    internal e s a b = internal e (sub s a b) 0 (b - a) := by
  -- the positions `internal` counts over, shifted by `a`
  have : List.range' (a + 1) (b - a - 1) = (List.range' (0 + 1) (b - a - 0 - 1)).map (a + ·) := by
    rw [List.map_add_range']; rfl
  rw [internal, internal, this, List.filter_map, List.length_map]
  refine congrArg _ (List.filter_congr fun x hx => ?_)
  obtain ⟨h1, h2⟩ := mem_inner.mp hx
  exact (isCutPos_sub e s a b x hb h1 h2).symm

/-- the internal-cleavage count is a function of the peptide string -/
theorem internal_local (e : Enzyme) {s : Seq} {a b a' b' : Nat} (hb : b ≤ s.length) (hb' : b' ≤ s.length)
    (h : sub s a b = sub s a' b') : internal e s a b = internal e s a' b' := by
  rw [internal_sub e hb, internal_sub e hb', ← sub_length (a := a) hb, h, sub_length hb']

section
variable {cs : List Cand} {s : Seq} {out : List Digest}

theorem clNodup_iff : clNodup out = true ↔ (out.map (·.seq)).Nodup := by
  rw [clNodup]
  generalize out.map (·.seq) = l
  induction l with
  | nil => simp [nodupB]
  | cons x t ih => simp [nodupB, ih]

theorem clSound_iff : clSound cs s out = true ↔ ∀ d ∈ out, ∃ c ∈ cs, sub s c.i c.j = d.seq := by
  simp only [clSound, List.all_eq_true, List.any_eq_true, produces, beq_iff_eq]

theorem clComplete_iff : clComplete cs s out = true ↔ ∀ c ∈ cs, ∃ d ∈ out, sub s c.i c.j = d.seq := by
  simp only [clComplete, List.all_eq_true, List.any_eq_true, produces, beq_iff_eq]

theorem clLabel_iff : clLabel cs s out = true ↔ ∀ d ∈ out,
    (∃ c ∈ cs, sub s c.i c.j = d.seq ∧ c.mc = d.mc) ∧ ∀ c ∈ cs, sub s c.i c.j = d.seq → d.mc ≤ c.mc := by
  simp only [clLabel, List.all_eq_true, List.any_eq_true, produces, Bool.and_eq_true, beq_iff_eq,
    Bool.or_eq_true, Bool.not_eq_true', decide_eq_true_eq, beq_eq_false_iff_ne, ne_eq, ← imp_iff_not_or]

theorem clPos_iff : clPos cs s out = true ↔
    ∀ d ∈ out, ∃ c ∈ cs, sub s c.i c.j = d.seq ∧ posOf s.length c.i c.j = d.pos := by
  simp only [clPos, List.all_eq_true, List.any_eq_true, produces, Bool.and_eq_true, beq_iff_eq]

theorem clSemi_iff : clSemi cs s out = true ↔
    ∀ d ∈ out, (d.semi = false ↔ ∃ c ∈ cs, c.semi = false ∧ sub s c.i c.j = d.seq) := by
  simp only [clSemi, List.all_eq_true, beq_iff_eq]
  refine forall₂_congr fun d _ => ?_
  have : (∃ c ∈ cs, c.semi = false ∧ sub s c.i c.j = d.seq) ↔
      (cs.any fun c => !c.semi && produces s c d.seq) = true := by
    simp only [List.any_eq_true, Bool.and_eq_true, Bool.not_eq_true', produces, beq_iff_eq]
  rw [this]
  cases d.semi <;> cases cs.any fun c => !c.semi && produces s c d.seq <;> decide
end

/-- the order of the site list: fully enzymatic sites before semi-enzymatic children, and ascending
    label within each kind -/
abbrev Before (x y : Site) : Prop := (x.semi = true → y.semi = true) ∧ (x.semi = y.semi → x.mc ≤ y.mc)

/-- what ties a site list `L` (model) to a candidate list `cs` (spec). `lab` speaks of the spec
    only: among the candidates that read a string, the fully enzymatic ones have the least label. -/
structure Rel (par : Params) (s : Seq) (L : List Site) (cs : List Cand) : Prop where
  ok : ∀ c ∈ cs, good par s ⟨c.i, c.j, c.mc, c.semi⟩ = some (sub s c.i c.j)
  r1 : ∀ x ∈ L, ∀ w, good par s x = some w →
    ∃ m t, m ≤ x.mc ∧ (x.semi = false → t = false) ∧ (⟨x.start, x.stop, m, t⟩ : Cand) ∈ cs
  r2 : ∀ c ∈ cs, (⟨c.i, c.j, c.mc, c.semi⟩ : Site) ∈ L
  ord : L.Pairwise Before
  lab : ∀ c ∈ cs, c.semi = false → ∀ c' ∈ cs, sub s c.i c.j = sub s c'.i c'.j → c.mc ≤ c'.mc

theorem rel_witness {par : Params} {s : Seq} {L : List Site} {cs : List Cand} (R : Rel par s L cs) (d : Digest)
    (hd : d ∈ digestLoop par s L []) :
    ∃ c ∈ cs, sub s c.i c.j = d.seq ∧ posOf s.length c.i c.j = d.pos ∧ c.mc = d.mc ∧
      (d.semi = false → c.semi = false) ∧
      ∀ c' ∈ cs, sub s c'.i c'.j = d.seq → d.mc ≤ c'.mc ∧ (d.semi = true → c'.semi = true) := by
  obtain ⟨x, hx, w, hg, rfl, -, hmin⟩ :=
    loop_min (R := Before) (fun _ => ⟨id, fun _ => Nat.le_refl _⟩) R.ord hd
  obtain ⟨m, t, e3, e4, hc⟩ := R.r1 x hx w hg
  have hsub : sub s x.start x.stop = w := (good_iff.mp hg).2.2.2.symm
  have hbefore : ∀ c' ∈ cs, sub s c'.i c'.j = w →
      (x.semi = true → c'.semi = true) ∧ (x.semi = c'.semi → x.mc ≤ c'.mc) :=
    fun c' hc' hp => hmin _ (R.r2 c' hc') (hp ▸ R.ok c' hc')
  have hle : ∀ c' ∈ cs, sub s c'.i c'.j = w → x.mc ≤ c'.mc := by
    intro c' hc' hp
    cases hxs : x.semi with
    | true => exact (hbefore c' hc' hp).2 (by rw [hxs, (hbefore c' hc' hp).1 hxs])
    | false =>
      -- through the fully enzymatic candidate with the ends of `x`
      exact ((hbefore _ hc hsub).2 (by rw [hxs, e4 hxs])).trans
        (R.lab _ hc (e4 hxs) c' hc' (hsub.trans hp.symm))
  exact ⟨_, hc, hsub, rfl, Nat.le_antisymm e3 (hle _ hc hsub), e4,
    fun c' hc' hp => ⟨hle c' hc' hp, (hbefore c' hc' hp).1⟩⟩

theorem mem_cands {par : Params} {s : Seq} {c : Cand} :
    c ∈ cands par s ↔ c ∈ allowed par s ∧ lenOk par (c.j - c.i) = true := List.mem_filter

theorem mem_nonSpecificSpans {s : Seq} {c : Cand} :
    c ∈ nonSpecificSpans s ↔ c.i < c.j ∧ c.j ≤ s.length ∧ c.mc = 0 ∧ c.semi = false := by
  simp only [nonSpecificSpans, List.mem_flatMap, List.mem_filterMap, List.mem_range, Nat.lt_succ_iff,
    Option.ite_none_right_eq_some, Option.some.injEq]
  constructor
  · rintro ⟨i, _, j, hj, h1, rfl⟩
    exact ⟨h1, hj, rfl, rfl⟩
  · obtain ⟨i, j, m, t⟩ := c
    rintro ⟨h1, h2, rfl, rfl⟩
    exact ⟨i, h1.le.trans h2, j, h2, h1, rfl⟩

theorem mem_fullSpans {e : Enzyme} {mc : Nat} {s : Seq} {c : Cand} :
    c ∈ fullSpans e mc s ↔ c.i < c.j ∧ c.j ≤ s.length ∧ isBd e s c.i = true ∧ isBd e s c.j = true ∧
      internal e s c.i c.j ≤ mc ∧ c.mc = internal e s c.i c.j ∧ c.semi = false := by
  simp only [fullSpans, List.mem_flatMap, List.mem_filterMap, List.mem_range, Nat.lt_succ_iff,
    Option.ite_none_right_eq_some, Option.some.injEq, Bool.and_eq_true, decide_eq_true_eq]
  constructor
  · rintro ⟨i, _, j, hj, ⟨⟨⟨h1, h2⟩, h3⟩, h4⟩, rfl⟩
    exact ⟨h1, hj, h2, h3, h4, rfl, rfl⟩
  · obtain ⟨i, j, m, t⟩ := c
    intro hc
    dsimp only at hc
    obtain ⟨h1, h2, h3, h4, h5, rfl, rfl⟩ := hc
    exact ⟨i, h1.le.trans h2, j, h2, ⟨⟨⟨h1, h3⟩, h4⟩, h5⟩, rfl⟩

theorem mem_nonSpecificSites {mn mx n : Nat} {x : Site} :
    x ∈ nonSpecificSites mn mx n ↔
      ∃ len i, mn ≤ len ∧ len ≤ mx ∧ i ≤ n - len ∧ x = ⟨i, i + len, 0, false⟩ := by
  simp only [nonSpecificSites, List.mem_flatMap, List.mem_map, List.mem_range]
  constructor
  · rintro ⟨d, hd, i, hi, rfl⟩
    exact ⟨mn + d, i, Nat.le_add_right _ _, Nat.le_of_lt_succ (Nat.add_lt_of_lt_sub' hd), Nat.lt_succ_iff.mp hi, rfl⟩
  · rintro ⟨len, i, h1, h2, h3, rfl⟩
    obtain ⟨d, rfl⟩ := Nat.exists_eq_add_of_le h1
    exact ⟨d, Nat.lt_sub_of_add_lt (Nat.add_comm mn d ▸ Nat.lt_succ_of_le h2), i, Nat.lt_succ_of_le h3, rfl⟩

/-- **C05.semi_spans_spec** — what the semi-enzymatic candidates are: exactly one end of a fully
    enzymatic span moved strictly inside it, labelled with the parent's missed-cleavage count. -/
theorem semi_spans_spec (e : Enzyme) (mc : Nat) (s : Seq) (c : Cand) :
    c ∈ semiSpans e mc s ↔ ∃ p q, p < q ∧ q ≤ s.length ∧ isBd e s p = true ∧ isBd e s q = true ∧
      internal e s p q ≤ mc ∧ c.mc = internal e s p q ∧ c.semi = true ∧
      ((c.i = p ∧ p < c.j ∧ c.j < q) ∨ (c.j = q ∧ p < c.i ∧ c.i < q)) := by
  simp only [semiSpans, List.mem_flatMap, mem_inner, List.mem_cons, List.not_mem_nil, or_false]
  constructor
  · rintro ⟨c0, h0, x, ⟨hx1, hx2⟩, h⟩
    obtain ⟨g1, g2, g3, g4, g5, g6, _⟩ := mem_fullSpans.mp h0
    refine ⟨c0.i, c0.j, g1, g2, g3, g4, g5, ?_⟩
    rcases h with rfl | rfl
    · exact ⟨g6, rfl, Or.inl ⟨rfl, hx1, hx2⟩⟩
    · exact ⟨g6, rfl, Or.inr ⟨rfl, hx1, hx2⟩⟩
  · rintro ⟨p, q, g1, g2, g3, g4, g5, g6, g7, hk⟩
    refine ⟨⟨p, q, internal e s p q, false⟩, mem_fullSpans.mpr ⟨g1, g2, g3, g4, g5, rfl, rfl⟩, ?_⟩
    obtain ⟨i, j, m, t⟩ := c
    dsimp only at g6 g7 hk ⊢
    subst g6 g7
    rcases hk with ⟨rfl, k2, k3⟩ | ⟨rfl, k2, k3⟩
    · exact ⟨j, ⟨k2, k3⟩, Or.inl rfl⟩
    · exact ⟨i, ⟨k2, k3⟩, Or.inr rfl⟩

theorem mem_semiOf {x x' : Site} :
    x' ∈ semiOf x ↔ x'.mc = x.mc ∧ x'.semi = true ∧
      ((x'.start = x.start ∧ x.start ≤ x'.stop ∧ x'.stop < x.stop) ∨
        (x'.stop = x.stop ∧ x.start ≤ x'.start ∧ x'.start < x.stop)) := by
  simp only [semiOf, List.mem_flatMap, List.mem_range, List.mem_cons, List.not_mem_nil, or_false]
  constructor
  · rintro ⟨d, hd, rfl | rfl⟩
    · exact ⟨rfl, rfl, Or.inl ⟨rfl, Nat.le_add_right _ _, Nat.add_lt_of_lt_sub' hd⟩⟩
    · exact ⟨rfl, rfl, Or.inr ⟨rfl, Nat.le_add_right _ _, Nat.add_lt_of_lt_sub' hd⟩⟩
  · obtain ⟨a, b, m, t⟩ := x'
    intro hx
    dsimp only at hx
    obtain ⟨rfl, rfl, ⟨rfl, k2, k3⟩ | ⟨rfl, k2, k3⟩⟩ := hx
    · exact ⟨b - x.start, Nat.sub_lt_sub_right k2 k3, Or.inl (by rw [Nat.add_sub_cancel' k2])⟩
    · exact ⟨a - x.start, Nat.sub_lt_sub_right k2 k3, Or.inr (by rw [Nat.add_sub_cancel' k2])⟩

theorem rel_nonspecific (par : Params) (s : Seq) (h : par.enzyme = none) :
    Rel par s (allSites par s) (cands par s) := by
  have hL : allSites par s = nonSpecificSites par.minLen par.maxLen s.length := by
    simp [allSites, cleavageSites, isSemi, h]
  have hc : ∀ c, c ∈ cands par s ↔
      (c.i < c.j ∧ c.j ≤ s.length ∧ c.mc = 0 ∧ c.semi = false) ∧ lenOk par (c.j - c.i) = true :=
    fun c => by rw [mem_cands, allowed, h, mem_nonSpecificSpans]
  rw [hL]
  refine ⟨?_, ?_, ?_, ?_, ?_⟩
  · intro c hcm
    obtain ⟨⟨h1, h2, _, _⟩, h3⟩ := (hc c).mp hcm
    exact good_iff.mpr ⟨h1, h2, h3, rfl⟩
  · intro x hx w hg
    obtain ⟨g1, g2, g3, _⟩ := good_iff.mp hg
    obtain ⟨len, i, _, _, _, rfl⟩ := mem_nonSpecificSites.mp hx
    exact ⟨0, false, Nat.le_refl _, fun _ => rfl, (hc _).mpr ⟨⟨g1, g2, rfl, rfl⟩, g3⟩⟩
  · intro c hcm
    obtain ⟨⟨h1, h2, h3, h4⟩, h5⟩ := (hc c).mp hcm
    obtain ⟨l1, l2, _⟩ := lenOk_iff.mp h5
    exact mem_nonSpecificSites.mpr ⟨c.j - c.i, c.i, l1, l2,
      Nat.le_sub_of_add_le ((Nat.add_sub_cancel' h1.le).trans_le h2), by rw [h3, h4, Nat.add_sub_cancel' h1.le]⟩
  · refine List.pairwise_of_forall_mem_list fun a ha b _ => ?_
    obtain ⟨_, _, _, _, _, rfl⟩ := mem_nonSpecificSites.mp ha
    exact ⟨fun hs => (by cases hs), fun _ => Nat.zero_le _⟩
  · intro c hcm _ c' _ _
    rw [((hc c).mp hcm).1.2.2.1]; exact Nat.zero_le _

/-- the site list after the missed-cleavage step -/
def fullSites (e : Enzyme) (mc : Nat) (s : Seq) : List Site :=
  if mc = 0 then e.cleavageSites s else missedCleavageSites (e.cleavageSites s) mc

/-- the originals are the windows of size one, so the site list is windows throughout -/
theorem fullSites_eq (e : Enzyme) (mc : Nat) (s : Seq) :
    fullSites e mc s = windows 0 (pairs (bsOf e s)) ++
      if mc = 0 then [] else (List.range (mc + 1)).flatMap fun k => windows k (pairs (bsOf e s)) := by
  rw [fullSites, cleavageSites_eq, windows_zero_pairs]
  split
  · rw [List.append_nil]
  · rfl

theorem mem_fullSites {e : Enzyme} {mc : Nat} {s : Seq} {x : Site} :
    x ∈ fullSites e mc s ↔ ∃ k a b, k ≤ mc ∧ (a, b) ∈ spansK k (bsOf e s) ∧ x = ⟨a, b, k, false⟩ := by
  simp only [fullSites_eq, List.mem_append, List.mem_ite_nil_left, List.mem_flatMap, List.mem_range, mem_windows]
  constructor
  · rintro (⟨a, b, h1, rfl⟩ | ⟨_, k, hk, a, b, h1, rfl⟩)
    · exact ⟨0, a, b, Nat.zero_le _, h1, rfl⟩
    · exact ⟨k, a, b, Nat.le_of_lt_succ hk, h1, rfl⟩
  · rintro ⟨k, a, b, hk, h1, rfl⟩
    by_cases h : mc = 0
    · obtain rfl : k = 0 := Nat.le_zero.mp (h ▸ hk)
      exact Or.inl ⟨a, b, h1, rfl⟩
    · exact Or.inr ⟨h, k, Nat.lt_succ_of_le hk, a, b, h1, rfl⟩

theorem fullSites_sorted (e : Enzyme) (mc : Nat) (s : Seq) :
    (fullSites e mc s).Pairwise (fun x y => x.mc ≤ y.mc) := by
  have hW : ∀ k, ∀ x ∈ windows k (pairs (bsOf e s)), x.mc = k := fun k x hx => by
    obtain ⟨_, _, _, rfl⟩ := mem_windows.mp hx; rfl
  rw [fullSites_eq, List.pairwise_append]
  refine ⟨List.pairwise_of_forall_mem_list fun a ha b _ => ?_, ?_, fun a ha b _ => ?_⟩
  · rw [hW 0 a ha]; exact Nat.zero_le _
  · split
    · exact List.Pairwise.nil
    · rw [List.pairwise_flatMap]
      refine ⟨fun k _ => List.pairwise_of_forall_mem_list fun a ha b hb => ?_,
        List.pairwise_lt_range.imp fun hk a ha b hb => ?_⟩
      · rw [hW k a ha, hW k b hb]
      · rw [hW _ a ha, hW _ b hb]; exact Nat.le_of_lt hk
  · rw [hW 0 a ha]; exact Nat.zero_le _

theorem full_r1 {e : Enzyme} {mc : Nat} {s : Seq} {x : Site} (hx : x ∈ fullSites e mc s)
    (hlt : x.start < x.stop) :
    (⟨x.start, x.stop, internal e s x.start x.stop, false⟩ : Cand) ∈ fullSpans e mc s ∧
      internal e s x.start x.stop ≤ x.mc := by
  obtain ⟨k, a, b, hk, hm, rfl⟩ := mem_fullSites.mp hx
  obtain ⟨h1, h2, h3, h4⟩ := win_sound hm
  exact ⟨mem_fullSpans.mpr ⟨hlt, h3, h1, h2, h4.trans hk, rfl, rfl⟩, h4⟩

theorem full_r2 {e : Enzyme} {mc : Nat} {s : Seq} {a b : Nat} (h1 : a < b) (h2 : b ≤ s.length)
    (h3 : isBd e s a = true) (h4 : isBd e s b = true) (h5 : internal e s a b ≤ mc) :
    (⟨a, b, internal e s a b, false⟩ : Site) ∈ fullSites e mc s :=
  mem_fullSites.mpr ⟨_, a, b, h5, win_complete h1 h2 h3 h4, rfl⟩

theorem allSites_enzyme {par : Params} (s : Seq) {e : Enzyme} (h : par.enzyme = some e) :
    allSites par s = fullSites e par.mc s ++ if e.semi then (fullSites e par.mc s).flatMap semiOf else [] := by
  simp only [allSites, cleavageSites, isSemi, h, fullSites, semiEnzymaticSites]
  cases e.semi <;> simp

section
variable {par : Params} {s : Seq} {e : Enzyme} (h : par.enzyme = some e)
include h

theorem mem_allSites_enzyme {x : Site} : x ∈ allSites par s ↔
    x ∈ fullSites e par.mc s ∨ e.semi = true ∧ ∃ p ∈ fullSites e par.mc s, x ∈ semiOf p := by
  rw [allSites_enzyme s h, List.mem_append, List.mem_ite_nil_right, List.mem_flatMap]

theorem mem_cands_enzyme {c : Cand} : c ∈ cands par s ↔
    (c ∈ fullSpans e par.mc s ∨ e.semi = true ∧ c ∈ semiSpans e par.mc s) ∧ lenOk par (c.j - c.i) = true := by
  simp only [mem_cands, allowed, h, List.mem_append, List.mem_ite_nil_right]

theorem cands_bounds {c : Cand} (hc : c ∈ cands par s) :
    c.i < c.j ∧ c.j ≤ s.length ∧ internal e s c.i c.j ≤ c.mc ∧
      (c.semi = false → c.mc = internal e s c.i c.j) := by
  rcases ((mem_cands_enzyme h).mp hc).1 with h1 | ⟨_, h1⟩
  · obtain ⟨g1, g2, _, _, _, g6, _⟩ := mem_fullSpans.mp h1
    exact ⟨g1, g2, g6.ge, fun _ => g6⟩
  · obtain ⟨p, q, _, g2, _, _, _, g6, g7, hk⟩ := (semi_spans_spec e par.mc s c).mp h1
    have hb : p ≤ c.i ∧ c.i < c.j ∧ c.j ≤ q :=
      hk.elim (fun k => ⟨k.1.ge, k.1 ▸ k.2.1, k.2.2.le⟩) fun k => ⟨k.2.1.le, k.1 ▸ k.2.2, k.1.le⟩
    exact ⟨hb.2.1, hb.2.2.trans g2, g6 ▸ internal_mono e s hb.1 hb.2.2,
      fun hf => Bool.noConfusion (g7.symm.trans hf)⟩

/-- a usable site is matched by a candidate with its ends: its own span if it is fully enzymatic or
    a child that covers its parent, else the semi-enzymatic span with its ends -/
theorem enzyme_r1 (x : Site) (hx : x ∈ allSites par s) (w : Seq) (hg : good par s x = some w) :
    ∃ m t, m ≤ x.mc ∧ (x.semi = false → t = false) ∧ (⟨x.start, x.stop, m, t⟩ : Cand) ∈ cands par s := by
  obtain ⟨g1, g2, g3, _⟩ := good_iff.mp hg
  rcases (mem_allSites_enzyme h).mp hx with hx | ⟨hs, p, hp, hch⟩
  · obtain ⟨f1, f2⟩ := full_r1 hx g1
    exact ⟨_, _, f2, fun _ => rfl, (mem_cands_enzyme h).mpr ⟨Or.inl f1, g3⟩⟩
  · obtain ⟨hmc, hsemi, hk⟩ := mem_semiOf.mp hch
    have hlt : p.start < p.stop := by
      rcases hk with ⟨_, k2, k3⟩ | ⟨_, k2, k3⟩ <;> exact Nat.lt_of_le_of_lt k2 k3
    obtain ⟨f1, f2⟩ := full_r1 hp hlt
    obtain ⟨_, q2, q3, q4, q5, _, _⟩ := mem_fullSpans.mp f1
    have hchild : (x.start = p.start ∧ p.start < x.stop ∧ x.stop < p.stop) ∨
        (x.stop = p.stop ∧ p.start < x.start ∧ x.start < p.stop) →
        (⟨x.start, x.stop, internal e s p.start p.stop, true⟩ : Cand) ∈ cands par s := fun hij =>
      (mem_cands_enzyme h).mpr ⟨Or.inr ⟨hs, (semi_spans_spec e par.mc s _).mpr
        ⟨p.start, p.stop, hlt, q2, q3, q4, q5, rfl, rfl, hij⟩⟩, g3⟩
    rw [hmc]
    have hns : ∀ {P : Prop}, x.semi = false → P := fun hh => Bool.noConfusion (hsemi.symm.trans hh)
    rcases hk with ⟨k1, _, k3⟩ | ⟨k1, k2, k3⟩
    · exact ⟨_, _, f2, hns, hchild (Or.inl ⟨k1, k1 ▸ g1, k3⟩)⟩
    · by_cases hcov : x.start = p.start
      · exact ⟨_, _, f2, hns, (mem_cands_enzyme h).mpr ⟨Or.inl (by rw [hcov, k1]; exact f1), g3⟩⟩
      · exact ⟨_, _, f2, hns, hchild (Or.inr ⟨k1, Nat.lt_of_le_of_ne k2 (Ne.symm hcov), k3⟩)⟩

theorem enzyme_r2 (c : Cand) (hc : c ∈ cands par s) : (⟨c.i, c.j, c.mc, c.semi⟩ : Site) ∈ allSites par s := by
  rcases ((mem_cands_enzyme h).mp hc).1 with h1 | ⟨hs, h1⟩
  · obtain ⟨g1, g2, g3, g4, g5, g6, g7⟩ := mem_fullSpans.mp h1
    rw [g6, g7]
    exact (mem_allSites_enzyme h).mpr (Or.inl (full_r2 g1 g2 g3 g4 g5))
  · obtain ⟨p, q, g1, g2, g3, g4, g5, g6, g7, hk⟩ := (semi_spans_spec e par.mc s c).mp h1
    exact (mem_allSites_enzyme h).mpr (Or.inr ⟨hs, _, full_r2 g1 g2 g3 g4 g5,
      mem_semiOf.mpr ⟨g6, g7, hk.imp (fun k => ⟨k.1, k.2.1.le, k.2.2⟩) fun k => ⟨k.1, k.2.1.le, k.2.2⟩⟩⟩)

theorem enzyme_ord : (allSites par s).Pairwise Before := by
  have hF : ∀ x ∈ fullSites e par.mc s, x.semi = false := fun x hx => by
    obtain ⟨_, _, _, _, _, rfl⟩ := mem_fullSites.mp hx; rfl
  have hS : ∀ x ∈ (fullSites e par.mc s).flatMap semiOf, x.semi = true := fun x hx => by
    obtain ⟨p, _, hch⟩ := List.mem_flatMap.mp hx
    exact (mem_semiOf.mp hch).2.1
  rw [allSites_enzyme s h, List.pairwise_append]
  refine ⟨(fullSites_sorted e par.mc s).imp_of_mem fun ha hb hab => ?_, ?_, fun a ha b hb => ?_⟩
  · exact ⟨fun hs => (by rw [hF _ ha] at hs; cases hs), fun _ => hab⟩
  · cases e.semi
    · exact List.Pairwise.nil
    · rw [if_pos rfl]
      refine List.Pairwise.imp_of_mem (fun _ hb hab => ⟨fun _ => hS _ hb, fun _ => hab⟩) ?_
      -- children carry the label of their parent
      rw [List.pairwise_flatMap]
      refine ⟨fun x _ => List.pairwise_of_forall_mem_list fun a ha b hb => ?_,
        (fullSites_sorted e par.mc s).imp fun hxy a ha b hb => ?_⟩
      · rw [(mem_semiOf.mp ha).1, (mem_semiOf.mp hb).1]
      · rw [(mem_semiOf.mp ha).1, (mem_semiOf.mp hb).1]; exact hxy
  · cases hs : e.semi <;> rw [hs] at hb
    · cases hb
    · exact ⟨fun _ => hS b hb, fun hab => by rw [hF a ha, hS b hb] at hab; cases hab⟩

theorem rel_enzyme : Rel par s (allSites par s) (cands par s) where
  ok c hc := good_iff.mpr ⟨(cands_bounds h hc).1, (cands_bounds h hc).2.1, ((mem_cands_enzyme h).mp hc).2, rfl⟩
  r1 := enzyme_r1 h
  r2 := enzyme_r2 h
  ord := enzyme_ord h
  lab c hc hns c' hc' hp := by
    obtain ⟨_, g2, _, g4⟩ := cands_bounds h hc
    obtain ⟨_, g2', g3', _⟩ := cands_bounds h hc'
    rw [g4 hns, internal_local e g2 g2' hp]
    exact g3'

end

theorem rel_all (par : Params) (s : Seq) : Rel par s (allSites par s) (cands par s) := by
  cases h : par.enzyme with
  | none => exact rel_nonspecific par s h
  | some e => exact rel_enzyme h


/-- **C05.digest_nodup** — for every parameter set and every protein, no peptide sequence is
    produced twice ("each once per protein"). -/
theorem digest_nodup (par : Params) (s : Seq) : ((digest par s).map (·.seq)).Nodup :=
  loop_nodup par s (allSites par s) []

example : (digest ⟨1, 1, 50, some ⟨.cls [75], none, true, false⟩⟩ [65, 75, 65, 75, 65, 75]).map (·.seq)
    = [[65, 75], [65, 75, 65, 75]] := by decide +kernel

/-- **C05.digest_sound_complete** — for EVERY parameter set (semi-enzymatic, non-specific and no-digest
    included) and every protein: the peptide sequences have no duplicates, each is the substring of an
    allowed span of the specification (`cands`: fully enzymatic spans, their semi-enzymatic children, or
    all windows, within the length bounds), and the substring of every allowed span is produced. These
    are the clauses `duplicate`, `unsound`, `incomplete` the driver evaluates on sage's output. -/
theorem digest_sound_complete (par : Params) (s : Seq) :
    clNodup (digest par s) = true ∧ clSound (cands par s) s (digest par s) = true ∧
      clComplete (cands par s) s (digest par s) = true := by
  have R := rel_all par s
  refine ⟨clNodup_iff.mpr (digest_nodup par s), clSound_iff.mpr fun d hd => ?_, clComplete_iff.mpr fun c hc => ?_⟩
  · obtain ⟨c, hc, hp, _⟩ := rel_witness R d hd
    exact ⟨c, hc, hp⟩
  · rcases loop_complete [] (R.r2 c hc) (R.ok c hc) with h | ⟨d, hd, e⟩
    · cases h
    · exact ⟨d, hd, e.symm⟩

/-- the same, spelled out: `w` is produced iff some allowed span within the length bounds reads `w` -/
theorem digest_mem_iff (par : Params) (s : Seq) (w : Seq) :
    w ∈ (digest par s).map (·.seq) ↔ ∃ c ∈ cands par s, sub s c.i c.j = w := by
  obtain ⟨_, h2, h3⟩ := digest_sound_complete par s
  constructor
  · intro hw
    obtain ⟨d, hd, rfl⟩ := List.mem_map.mp hw
    exact clSound_iff.mp h2 d hd
  · rintro ⟨c, hc, rfl⟩
    obtain ⟨d, hd, hp⟩ := clComplete_iff.mp h3 c hc
    exact List.mem_map.mpr ⟨d, hd, hp.symm⟩

theorem allowed_full {par : Params} (s : Seq) {e : Enzyme} (h : par.enzyme = some e) (hs : e.semi = false) :
    allowed par s = fullSpans e par.mc s := by
  simp [allowed, h, hs]

/-- **C05.digest_sound_complete_full** — fully enzymatic digestion (any cleavage set, restriction,
    terminus, missed cleavages, length bounds; also the no-digest enzyme `$`): the peptide sequences
    are exactly the substrings `s[i..j]` with both ends boundaries (a protein terminus or a cleavage
    position), at most `mc` cleavage positions strictly inside, and length within the bounds. -/
theorem digest_sound_complete_full (par : Params) (s : Seq) (e : Enzyme) (h : par.enzyme = some e)
    (hs : e.semi = false) (w : Seq) :
    w ∈ (digest par s).map (·.seq) ↔
      ∃ i j, i < j ∧ j ≤ s.length ∧ isBd e s i = true ∧ isBd e s j = true ∧
        internal e s i j ≤ par.mc ∧ lenOk par (j - i) = true ∧ w = sub s i j := by
  simp only [digest_mem_iff, mem_cands, allowed_full s h hs, mem_fullSpans]
  constructor
  · rintro ⟨c, ⟨⟨g1, g2, g3, g4, g5, _, _⟩, g6⟩, rfl⟩
    exact ⟨c.i, c.j, g1, g2, g3, g4, g5, g6, rfl⟩
  · rintro ⟨i, j, g1, g2, g3, g4, g5, g6, rfl⟩
    exact ⟨⟨i, j, internal e s i j, false⟩, ⟨⟨g1, g2, g3, g4, g5, rfl, rfl⟩, g6⟩, rfl⟩

/-- **C05.digest_sound_complete_nonspecific** — without an enzyme the peptide sequences are exactly
    the windows `s[i..j]` whose length is within the bounds (missed cleavages play no role). -/
theorem digest_sound_complete_nonspecific (par : Params) (s : Seq) (h : par.enzyme = none) (w : Seq) :
    w ∈ (digest par s).map (·.seq) ↔
      ∃ i j, i < j ∧ j ≤ s.length ∧ lenOk par (j - i) = true ∧ w = sub s i j := by
  simp only [digest_mem_iff, mem_cands, allowed, h, mem_nonSpecificSpans]
  constructor
  · rintro ⟨c, ⟨⟨g1, g2, _, _⟩, g6⟩, rfl⟩
    exact ⟨c.i, c.j, g1, g2, g6, rfl⟩
  · rintro ⟨i, j, g1, g2, g6, rfl⟩
    exact ⟨⟨i, j, 0, false⟩, ⟨⟨g1, g2, rfl, rfl⟩, g6⟩, rfl⟩

/-- **C05.digest_position_flag** — for every parameter set: the reported protein-terminus position is
    the position of some allowed span that reads the peptide ("true of some occurrence"), and a
    peptide is flagged semi-enzymatic iff no fully enzymatic span reads it. -/
theorem digest_position_flag (par : Params) (s : Seq) :
    clPos (cands par s) s (digest par s) = true ∧ clSemi (cands par s) s (digest par s) = true := by
  have R := rel_all par s
  refine ⟨clPos_iff.mpr fun d hd => ?_, clSemi_iff.mpr fun d hd => ?_⟩
  · obtain ⟨c, hc, hp, hpos, _⟩ := rel_witness R d hd
    exact ⟨c, hc, hp, hpos⟩
  · obtain ⟨c, hc, hp, _, _, hfull, hmin⟩ := rel_witness R d hd
    refine ⟨fun hds => ⟨c, hc, hfull hds, hp⟩, ?_⟩
    rintro ⟨c', hc', hs', hp'⟩
    cases hds : d.semi with
    | false => rfl
    | true => exact ((hmin c' hc' hp').2 hds).symm.trans hs'

/-- **C05.digest_label** — for EVERY parameter set and protein: each peptide's missed-cleavage label
    is the minimum of the (parent) missed-cleavage counts of the allowed spans that read it. The fully
    enzymatic sites come first, then the semi-enzymatic children, each block in ascending label order
    (`Before`), and the first occurrence wins (`loop_min`); across the border between the blocks this
    needs that the number of internal cleavage positions is a function of the peptide string
    (`internal_local`). -/
theorem digest_label (par : Params) (s : Seq) : clLabel (cands par s) s (digest par s) = true :=
  clLabel_iff.mpr fun d hd =>
    let ⟨c, hc, hp, _, hm, _, hmin⟩ := rel_witness (rel_all par s) d hd
    ⟨⟨c, hc, hp, hm⟩, fun c' hc' hp' => (hmin c' hc' hp').1⟩

/-- **C05.digest_label_full** — under fully enzymatic digestion the label of a peptide equals the
    number of cleavage positions strictly inside ANY fully enzymatic span that reads it. -/
theorem digest_label_full (par : Params) (s : Seq) (e : Enzyme) (h : par.enzyme = some e)
    (hs : e.semi = false) (d : Digest) (hd : d ∈ digest par s) (i j : Nat) (hij : i < j)
    (hj : j ≤ s.length) (hp : sub s i j = d.seq) : d.mc = internal e s i j := by
  obtain ⟨c, hc, hcp, _, hcm, _⟩ := rel_witness (rel_all par s) d hd
  rw [mem_cands, allowed_full s h hs, mem_fullSpans] at hc
  obtain ⟨⟨_, g2, _, _, _, g6, _⟩, _⟩ := hc
  rw [← hcm, g6]
  exact internal_local e g2 hj (hcp.trans hp.symm)

/-- **C05.digest_meets_spec** — the complete executable specification that the driver evaluates on
    sage's output holds of the model's output, for every parameter set and every protein. -/
theorem digest_meets_spec (par : Params) (s : Seq) : specOk par s (digest par s) = true := by
  obtain ⟨h1, h2, h3⟩ := digest_sound_complete par s
  obtain ⟨h5, h6⟩ := digest_position_flag par s
  simp only [specOk, Bool.and_eq_true]
  exact ⟨⟨⟨⟨⟨h1, h2⟩, h3⟩, digest_label par s⟩, h5⟩, h6⟩

/-- **C05.digest_meets_spec_full** — the whole specification (no duplicates, sound, complete, label =
    minimum over the producing spans of the internal-cleavage count, position true of a producing span,
    semi flag) holds of the model's output for every fully enzymatic and every non-specific parameter set. -/
theorem digest_meets_spec_full (par : Params) (s : Seq)
    (h : par.enzyme = none ∨ ∃ e, par.enzyme = some e ∧ e.semi = false) :
    specOk par s (digest par s) = true :=
  digest_meets_spec par s

-- non-vacuity: trypsin with restriction P, one missed cleavage, on AKPKAAKA gives five peptides; on AKA
-- the spec rejects an output with a wrong label
example : (digest ⟨1, 1, 50, some ⟨.cls [75, 82], some 80, true, false⟩⟩ [65, 75, 80, 75, 65, 65, 75, 65]).length = 5 := by
  decide +kernel
example : specOk ⟨1, 1, 50, some ⟨.cls [75], none, true, false⟩⟩ [65, 75, 65]
    [⟨[65, 75], 1, .nterm, false⟩, ⟨[65], 0, .cterm, false⟩, ⟨[65, 75, 65], 1, .full, false⟩] = false := by
  decide +kernel

-- non-vacuity: semi-tryptic AKAKAKA with two missed cleavages: "AK" occurs three times as a fully
-- enzymatic peptide and as a child of longer parents; its label is 0 = min; "AKAK" gets 1
example : ((digest ⟨2, 1, 50, some ⟨.cls [75], none, true, true⟩⟩ [65, 75, 65, 75, 65, 75, 65]).filter
    (fun d => d.seq == [65, 75] || d.seq == [65, 75, 65, 75])).map (fun d => (d.mc, d.semi))
    = [(0, false), (1, false)] := by decide +kernel
example : clLabel (cands ⟨1, 1, 9, some ⟨.cls [75], none, true, false⟩⟩ [65, 75, 65]) [65, 75, 65]
    [⟨[65, 75], 1, .nterm, false⟩] = false := by decide +kernel

-- non-vacuity: semi-tryptic AAKARARA, lengths 2..4, one missed cleavage: "AR" (fully enzymatic, and a child
-- of "ARAR") is reported once, not flagged semi; the position clause rejects a wrong position
example : (digest ⟨1, 2, 4, some ⟨.cls [75, 82], none, true, true⟩⟩ [65, 65, 75, 65, 82, 65, 82, 65]).filter
    (fun d => d.seq == [65, 82]) = [⟨[65, 82], 0, .internal, false⟩] := by decide +kernel
example : clPos (cands ⟨0, 1, 9, some ⟨.cls [75], none, true, false⟩⟩ [65, 75, 65]) [65, 75, 65]
    [⟨[65, 75], 0, .cterm, false⟩] = false := by decide +kernel

/-- **C05.spec_unique** — the specification determines the peptide sequences, their labels and their
    semi flags: any two outputs accepted by `specOk` agree on them (only order and, among several
    occurrences, the reported position are free). With `digest_meets_spec` this justifies judging big
    proteins against the model's output (`fastVerdict`). -/
theorem spec_unique (par : Params) (s : Seq) (out out' : List Digest)
    (h : specOk par s out = true) (h' : specOk par s out' = true) (d : Digest) (hd : d ∈ out) :
    ∃ d' ∈ out', d'.seq = d.seq ∧ d'.mc = d.mc ∧ d'.semi = d.semi := by
  simp only [specOk, Bool.and_eq_true, clSound_iff, clComplete_iff, clLabel_iff, clSemi_iff] at h h'
  obtain ⟨⟨⟨⟨⟨_, hs⟩, _⟩, hl⟩, _⟩, hf⟩ := h
  obtain ⟨⟨⟨⟨⟨_, _⟩, hc'⟩, hl'⟩, _⟩, hf'⟩ := h'
  obtain ⟨c, hc, hp⟩ := hs d hd
  obtain ⟨d', hd', hp'⟩ := hc' c hc
  have hseq : d'.seq = d.seq := hp'.symm.trans hp
  refine ⟨d', hd', hseq, ?_, ?_⟩
  · -- each label is attained by a span that also bounds the other label
    obtain ⟨⟨c1, hc1, hp1, hm1⟩, hmin⟩ := hl d hd
    obtain ⟨⟨c2, hc2, hp2, hm2⟩, hmin'⟩ := hl' d' hd'
    exact Nat.le_antisymm (hm1 ▸ hmin' c1 hc1 (hp1.trans hseq.symm)) (hm2 ▸ hmin c2 hc2 (hp2.trans hseq))
  · have e : d'.semi = false ↔ d.semi = false := by rw [hf d hd, hf' d' hd', hseq]
    cases h1 : d'.semi <;> cases h2 : d.semi <;> simp [h1, h2] at e ⊢

/-- **C05.fastVerdict_model** — the big-protein verdict accepts the model's own output. -/
theorem fastVerdict_model (s : Seq) (out : List Digest) : fastVerdict s out out = "ok" := by
  simp [fastVerdict]

-- non-vacuity: the big-protein verdict names a missing missed-cleavage peptide
example : fastVerdict [65, 75, 65, 75]
    (digest ⟨1, 1, 9, some ⟨.cls [75], none, true, false⟩⟩ [65, 75, 65, 75])
    (digest ⟨0, 1, 9, some ⟨.cls [75], none, true, false⟩⟩ [65, 75, 65, 75]) = "bad:incomplete" := by decide +kernel


/-- **C05.digestP_spec** — the only input on which the digest model panics is `missed_cleavages = 255`
    with an enzyme (the `u8` overflow of `1 + missed_cleavages`); everywhere else it returns `digest`,
    which meets the spec. -/
theorem digestP_spec (par : Params) (s : Seq) (h : par.enzyme = none ∨ par.mc < 255) :
    ∃ out, digestP par s = some out ∧ specOk par s out = true := by
  refine ⟨digest par s, ?_, digest_meets_spec par s⟩
  unfold digestP
  rcases h with h | h
  · simp [h]
  · simp [Nat.not_le.mpr h]

example : digestP ⟨255, 1, 50, some ⟨.cls [75], none, true, false⟩⟩ [65, 75] = none := by simp [digestP]
example : (digestP ⟨2, 1, 50, some ⟨.cls [75], none, true, false⟩⟩ [65, 75, 65]).map List.length = some 3 := by decide +kernel


/-- a record as it is laid out in a file: the raw header line, the raw lines after it up to the next
    header (sequence chunks with any padding, blank lines), the header text after `>` and the
    accession -/
structure LRec where
  header : Seq
  body : List Seq
  id : Seq
  acc : Seq

def LRec.seq (r : LRec) : Seq := (r.body.map trim).flatten

def LRec.lines (r : LRec) : List Seq := r.header :: r.body

/-- well-formed layout: the header trims to `>` + id, the id's first token is the accession (so it
    is non-empty), no body line trims to something starting with `>`, the sequence is non-empty -/
def LRec.WF (r : LRec) : Prop :=
  trim r.header = 62 :: r.id ∧ firstToken r.id = some r.acc ∧
    (∀ b ∈ r.body, (trim b).head? ≠ some 62) ∧ r.seq ≠ []

/-- the records the parser must deliver -/
def kept (tag : Seq) (gen : Bool) (recs : List LRec) : List (Seq × Seq) :=
  (recs.map fun r => (r.acc, r.seq)).filter fun p => keep tag gen p.1

theorem trim_nil : trim [] = [] := rfl

/-- what one record contributes; `none` (the `unwrap` panic) if it has a sequence but no accession token -/
def named1 (r : Seq × Seq) : Option (List (Seq × Seq)) :=
  if r.2.isEmpty then some [] else (firstToken r.1).map fun a => [(a, r.2)]

theorem flush_eq (tag : Seq) (gen : Bool) (T : List (Seq × Seq)) (id sq : Seq) :
    flush tag gen ⟨T, id, sq⟩ =
      (named1 (id, sq)).map fun a => T ++ a.filter fun r => keep tag gen r.1 := by
  unfold flush named1
  by_cases he : sq.isEmpty = true
  · simp [he]
  · simp only [he, Bool.false_eq_true, if_false]
    cases firstToken id with
    | none => simp
    | some acc => by_cases hk : keep tag gen acc = true <;> simp [hk]

/-- the step as a function of the trimmed line only -/
def stepT (tag : Seq) (gen : Bool) (st : FState) (t : Seq) : Option FState :=
  if isHeader t then (flush tag gen st).map fun T => ⟨T, t.drop 1, []⟩
  else some { st with s := st.s ++ t }

theorem step_eq_stepT (tag : Seq) (gen : Bool) (st : FState) (l : Seq) :
    step tag gen st l = stepT tag gen st (trim l) := by
  unfold step stepT
  cases l with
  | nil => simp [trim_nil, isHeader]
  | cons a t =>
    rw [List.isEmpty_cons, if_neg Bool.false_ne_true]
    generalize trim (a :: t) = u
    split
    · rfl
    · rename_i hne
      cases u with
      | nil => rfl
      | cons c id =>
        rw [if_neg]
        rw [isHeader, List.head?_cons, beq_iff_eq, Option.some.injEq]
        exact fun hc => hne id (hc ▸ rfl)

theorem parse_body (tag : Seq) (gen : Bool) (B rest : List Seq) (st : FState)
    (h : ∀ b ∈ B, (trim b).head? ≠ some 62) :
    parseLines tag gen (B ++ rest) st =
      parseLines tag gen rest { st with s := st.s ++ (B.map trim).flatten } := by
  induction B generalizing st with
  | nil => simp
  | cons b B ih =>
    have hb : ¬isHeader (trim b) = true := fun e => h b List.mem_cons_self (beq_iff_eq.mp e)
    simp only [List.cons_append, parseLines, step_eq_stepT, stepT, if_neg hb]
    rw [ih _ fun x hx => h x (List.mem_cons_of_mem _ hx)]
    simp [List.append_assoc]

theorem parse_records (tag : Seq) (gen : Bool) (recs : List LRec) (st : FState)
    (h : ∀ r ∈ recs, r.WF) :
    parseLines tag gen (recs.flatMap LRec.lines) st =
      (flush tag gen st).map fun t => t ++ kept tag gen recs := by
  induction recs generalizing st with
  | nil => simp [parseLines, kept]
  | cons r rs ih =>
    obtain ⟨h1, h2, h3, h4⟩ := h r List.mem_cons_self
    have hn : named1 (r.id, r.seq) = some [(r.acc, r.seq)] := by
      simp [named1, h2, h4]
    simp only [List.flatMap_cons, LRec.lines, List.cons_append, parseLines, step_eq_stepT, h1, stepT,
      isHeader, List.head?_cons, beq_self_eq_true, if_true, List.drop_one, List.tail_cons]
    cases hf : flush tag gen st with
    | none => simp
    | some t =>
      simp only [Option.map_some]
      rw [parse_body tag gen r.body _ _ h3, ih _ fun x hx => h x (List.mem_cons_of_mem _ hx)]
      have hs : (r.body.map trim).flatten = r.seq := rfl
      have hk : kept tag gen (r :: rs) =
          ([(r.acc, r.seq)].filter fun p => keep tag gen p.1) ++ kept tag gen rs := by
        rw [kept, List.map_cons, ← List.singleton_append, List.filter_append]; rfl
      simp only [List.nil_append, hs, flush_eq, hn, hk, Option.map_some, List.append_assoc]

theorem linesAux_append (l rest cur : Seq) (h : (10 : UInt8) ∉ l) :
    linesAux (l ++ rest) cur = linesAux rest (cur ++ l) := by
  induction l generalizing cur with
  | nil => rw [List.nil_append, List.append_nil]
  | cons c t ih =>
    have hc : (c == 10) = false := beq_false_of_ne (List.ne_of_not_mem_cons h).symm
    rw [List.cons_append, linesAux, hc, if_neg Bool.false_ne_true,
      ih _ (List.not_mem_of_not_mem_cons h), List.append_assoc]
    rfl

theorem stripCR_crlf (l : Seq) : stripCR (l ++ [13]) = l := by
  simp [stripCR]

theorem stripCR_id (l : Seq) (h : l.getLast? ≠ some 13) : stripCR l = l := by
  simp [stripCR, h]

def eol (crlf : Bool) : Seq := if crlf then [13, 10] else [10]

/-- a text: every line followed by its own LF or CRLF -/
def renderLines : List (Seq × Bool) → Seq
  | [] => []
  | (l, crlf) :: rest => l ++ eol crlf ++ renderLines rest

theorem linesAux_eol (l rest : Seq) (crlf : Bool) (h1 : (10 : UInt8) ∉ l) (h2 : l.getLast? ≠ some 13) :
    linesAux (l ++ eol crlf ++ rest) [] = l :: linesAux rest [] := by
  have hcr : l ++ eol crlf ++ rest = (l ++ if crlf then [13] else []) ++ 10 :: rest := by
    cases crlf <;> simp [eol]
  rw [hcr, linesAux_append _ _ [] (by cases crlf <;> simp [h1]), linesAux, if_pos (beq_self_eq_true _), List.nil_append]
  cases crlf
  · rw [if_neg Bool.false_ne_true, List.append_nil, stripCR_id l h2]
  · rw [if_pos rfl, stripCR_crlf]

/-- `last`: an optional final line without terminator (it may end in a lone CR) -/
theorem lines_render (ls : List (Seq × Bool)) (last : Seq)
    (h : ∀ p ∈ ls, (10 : UInt8) ∉ p.1 ∧ p.1.getLast? ≠ some 13) (hl : (10 : UInt8) ∉ last) :
    lines (renderLines ls ++ last) = ls.map (·.1) ++ (if last.isEmpty then [] else [last]) := by
  unfold lines
  induction ls with
  | nil =>
    have := linesAux_append last [] [] hl
    rwa [List.append_nil] at this
  | cons p rest ih =>
    obtain ⟨h1, h2⟩ := h p List.mem_cons_self
    rw [renderLines, List.append_assoc, linesAux_eol _ _ _ h1 h2, ih fun q hq => h q (List.mem_cons_of_mem _ hq)]
    rfl
/-- chunks of width `w` (fuel = an upper bound on the length) -/
def wrap (w : Nat) : Nat → Seq → List Seq
  | 0, _ => []
  | f + 1, l => if l.isEmpty then [] else l.take w :: wrap w f (l.drop w)

theorem wrap_flatten {w : Nat} (hw : 0 < w) {f : Nat} {l : Seq} (hf : l.length ≤ f) :
    (wrap w f l).flatten = l := by
  induction f generalizing l with
  | zero => rw [List.eq_nil_of_length_eq_zero (Nat.le_zero.mp hf)]; rfl
  | succ f ih =>
    cases l with
    | nil => rfl
    | cons a t =>
      rw [wrap, if_neg (by rw [List.isEmpty_cons]; exact Bool.false_ne_true), List.flatten_cons,
        ih (by rw [List.length_drop]; exact Nat.sub_le_of_le_add (hf.trans (Nat.add_le_add_left hw f))),
        List.take_append_drop]

theorem wrap_mem {w f : Nat} {l ch : Seq} (h : ch ∈ wrap w f l) : ∀ c ∈ ch, c ∈ l := by
  induction f generalizing l with
  | zero => simp [wrap] at h
  | succ f ih =>
    unfold wrap at h
    by_cases he : l.isEmpty = true
    · simp [he] at h
    · rw [if_neg he] at h
      rcases List.mem_cons.mp h with rfl | h
      · intro c hc; exact List.mem_of_mem_take hc
      · intro c hc; exact List.mem_of_mem_drop (ih h c hc)

theorem dropWhile_none {α : Type} {p : α → Bool} {l : List α} (h : ∀ c ∈ l, p c = false) :
    l.dropWhile p = l := by
  cases l with
  | nil => rfl
  | cons a t => exact List.dropWhile_cons_of_neg (by rw [h a List.mem_cons_self]; exact Bool.false_ne_true)

theorem trim_clean {l : Seq} (h : ∀ c ∈ l, isWs c = false) : trim l = l := by
  rw [trim, trimEnd, dropWhile_none h, dropWhile_none fun c hc => h c (List.mem_reverse.mp hc),
    List.reverse_reverse]

theorem takeWhile_all {α : Type} {p : α → Bool} {l : List α} (h : ∀ c ∈ l, p c = true) :
    l.takeWhile p = l := by
  induction l with
  | nil => rfl
  | cons a t ih =>
    rw [List.takeWhile_cons_of_pos (h a List.mem_cons_self), ih fun c hc => h c (List.mem_cons_of_mem _ hc)]

theorem isWs_of_isAsciiWs {c : UInt8} (h : isAsciiWs c = true) : isWs c = true := by
  simp only [isAsciiWs, Bool.or_eq_true, beq_iff_eq] at h
  rcases h with (((rfl | rfl) | rfl) | rfl) | rfl <;> rfl

theorem firstToken_clean {l : Seq} (hne : l ≠ []) (h : ∀ c ∈ l, isWs c = false) :
    firstToken l = some l := by
  have ha : ∀ c ∈ l, isAsciiWs c = false := fun c hc =>
    Bool.eq_false_iff.mpr fun hw => Bool.false_ne_true ((h c hc).symm.trans (isWs_of_isAsciiWs hw))
  rw [firstToken, dropWhile_none ha, if_neg (by rwa [List.isEmpty_iff]),
    takeWhile_all fun c hc => by rw [ha c hc]; rfl]

/-- a record written as `>acc` and the sequence wrapped at width `w` -/
def wrapRec (w : Nat) (r : Seq × Seq) : LRec := ⟨62 :: r.1, wrap w r.2.length r.2, r.1, r.1⟩

def cleanRec (r : Seq × Seq) : Prop :=
  r.1 ≠ [] ∧ r.2 ≠ [] ∧ (∀ c ∈ r.1, isWs c = false) ∧ (∀ c ∈ r.2, isWs c = false ∧ c ≠ 62)

theorem wrapRec_lines_clean {w : Nat} {r : Seq × Seq} (hr : cleanRec r) {l : Seq}
    (hl : l ∈ (wrapRec w r).lines) : ∀ c ∈ l, isWs c = false := by
  obtain ⟨_, _, h3, h4⟩ := hr
  rcases List.mem_cons.mp hl with rfl | hl
  · intro c hc
    rcases List.mem_cons.mp hc with rfl | hc
    · decide
    · exact h3 c hc
  · exact fun c hc => (h4 c (wrap_mem hl c hc)).1

theorem wrapRec_seq {w : Nat} (hw : 0 < w) {r : Seq × Seq} (hr : cleanRec r) : (wrapRec w r).seq = r.2 := by
  have : (wrap w r.2.length r.2).map trim = wrap w r.2.length r.2 :=
    (List.map_congr_left fun ch hch =>
      trim_clean (wrapRec_lines_clean hr (List.mem_cons_of_mem _ hch))).trans (List.map_id _)
  rw [LRec.seq, wrapRec, this, wrap_flatten hw (Nat.le_refl _)]

theorem wrapRec_wf {w : Nat} (hw : 0 < w) {r : Seq × Seq} (hr : cleanRec r) : (wrapRec w r).WF := by
  refine ⟨trim_clean (wrapRec_lines_clean (w := w) hr List.mem_cons_self), firstToken_clean hr.1 hr.2.2.1,
    fun b hb => ?_, by rw [wrapRec_seq hw hr]; exact hr.2.1⟩
  rw [trim_clean (wrapRec_lines_clean hr (List.mem_cons_of_mem _ hb))]
  cases b with
  | nil => simp
  | cons a t => exact fun e => (hr.2.2.2 a (wrap_mem hb a List.mem_cons_self)).2 (Option.some.inj e)

theorem clean_line {l : Seq} (h : ∀ c ∈ l, isWs c = false) :
    (10 : UInt8) ∉ l ∧ l.getLast? ≠ some 13 := by
  refine ⟨fun hm => ?_, fun hl => ?_⟩
  · have := h 10 hm; revert this; decide
  · have := h 13 (List.mem_of_getLast? hl); revert this; decide

theorem specNamed_cons (r : Seq × Seq) (rs : List (Seq × Seq)) :
    specNamed (r :: rs) = (named1 r).bind fun a => (specNamed rs).map fun b => a ++ b := by
  unfold specNamed named1
  by_cases he : r.2.isEmpty = true
  · simp [he]
  · simp only [List.filter_cons, he, Bool.not_false, if_true, Bool.false_eq_true, if_false,
      List.mapM_cons]
    cases firstToken r.1 with
    | none => simp
    | some a =>
      simp only [Option.map_some, Option.bind_some]
      generalize List.mapM (m := Option) _ _ = q
      cases q <;> simp

def parseT (tag : Seq) (gen : Bool) : List Seq → FState → Option (List (Seq × Seq))
  | [], st => flush tag gen st
  | t :: ts, st =>
    match stepT tag gen st t with
    | none => none
    | some st' => parseT tag gen ts st'

theorem parseLines_eq_parseT (tag : Seq) (gen : Bool) (ls : List Seq) (st : FState) :
    parseLines tag gen ls st = parseT tag gen (ls.map trim) st := by
  induction ls generalizing st with
  | nil => rfl
  | cons l ls ih =>
    simp only [parseLines, List.map_cons, parseT, step_eq_stepT]
    cases stepT tag gen st (trim l) with
    | none => rfl
    | some st' => exact ih st'

/-- sequence text before the first header line (non-empty ⇒ `Fasta::parse` panics) -/
def preHeader (tl : List Seq) : Seq := (tl.takeWhile fun x => !isHeader x).flatten

/-- the state machine computes the specification's records: the pending record (id, sequence so
    far) is completed by the lines up to the next header, then come the records of the rest -/
theorem parseT_eq (tag : Seq) (gen : Bool) (tl : List Seq) (T : List (Seq × Seq)) (id sq : Seq) :
    parseT tag gen tl ⟨T, id, sq⟩ =
      (specNamed ((id, sq ++ preHeader tl) :: specRecs tl)).map
        fun nm => T ++ nm.filter fun r => keep tag gen r.1 := by
  induction tl generalizing T id sq with
  | nil =>
    simp only [parseT, preHeader, List.takeWhile_nil, List.flatten_nil, List.append_nil, specRecs, specNamed_cons]
    rw [flush_eq]
    cases named1 (id, sq) <;> simp [specNamed]
  | cons t rest ih =>
    unfold parseT stepT
    by_cases hh : isHeader t = true
    · rw [if_pos hh, flush_eq]
      simp only [preHeader, List.takeWhile_cons, hh, Bool.not_true, Bool.false_eq_true, if_false, List.flatten_nil,
        List.append_nil, specRecs, if_true]
      rw [specNamed_cons]
      cases named1 (id, sq) with
      | none => simp
      | some a =>
        simp only [Option.map_some, Option.bind_some]
        rw [ih]
        simp only [List.nil_append, preHeader]
        generalize specNamed _ = q
        cases q <;> simp [List.filter_append, List.append_assoc]
    · rw [if_neg hh]
      simp only
      rw [ih]
      simp [preHeader, hh, specRecs, List.append_assoc]


theorem takeWhile_flatten_filter (p : Seq → Bool) (hp : p [] = true) (l : List Seq) :
    ((l.filter fun x => !x.isEmpty).takeWhile p).flatten = (l.takeWhile p).flatten := by
  induction l with
  | nil => rfl
  | cons x rest ih =>
    cases x with
    | nil => simp [hp, ih]
    | cons a t =>
      simp only [List.filter_cons, List.isEmpty_cons, Bool.not_false, if_true, List.takeWhile_cons]
      cases p (a :: t) <;> simp [ih]

theorem specRecs_filter (l : List Seq) : specRecs (l.filter fun x => !x.isEmpty) = specRecs l := by
  induction l with
  | nil => rfl
  | cons x rest ih =>
    cases x with
    | nil => simp [specRecs, isHeader, ih]
    | cons a t =>
      simp only [List.filter_cons, List.isEmpty_cons, Bool.not_false, if_true, specRecs]
      rw [ih, takeWhile_flatten_filter _ (by simp [isHeader])]
theorem trim_append_ws (l : Seq) (w : UInt8) (hw : isWs w = true) : trim (l ++ [w]) = trim l := by
  unfold trim
  rw [List.dropWhile_append]
  by_cases he : (l.dropWhile isWs).isEmpty = true
  · have : l.dropWhile isWs = [] := by simpa using he
    simp [this, List.dropWhile, hw, trimEnd]
  · simp only [he, Bool.false_eq_true, if_false, trimEnd, List.reverse_append, List.reverse_cons,
      List.reverse_nil, List.nil_append, List.singleton_append]
    rw [List.dropWhile_cons_of_pos hw]

theorem trim_stripCR (l : Seq) : trim (stripCR l) = trim l := by
  by_cases h : l.getLast? = some 13
  · obtain ⟨l', rfl⟩ : ∃ l', l = l' ++ [13] := ⟨l.dropLast, (List.dropLast_append_getLast? 13 h).symm⟩
    rw [stripCR_crlf, trim_append_ws l' 13 (by decide)]
  · rw [stripCR_id l h]

theorem splitNL_ne_nil (t : Seq) : splitNL t ≠ [] := by
  cases t with
  | nil => simp [splitNL]
  | cons c t' =>
    unfold splitNL
    cases splitNL t' with
    | nil => simp
    | cons h r => by_cases hc : (c == 10) = true <;> simp [hc]

def prependFirst (cur : Seq) : List Seq → List Seq
  | [] => [cur]
  | h :: r => (cur ++ h) :: r

theorem lines_vs_splitNL (t cur : Seq) :
    ((linesAux t cur).map trim).filter (fun x => !x.isEmpty) =
      ((prependFirst cur (splitNL t)).map trim).filter fun x => !x.isEmpty := by
  induction t generalizing cur with
  | nil =>
    cases cur <;> simp [linesAux, splitNL, prependFirst, trim_nil]
  | cons c t' ih =>
    unfold linesAux splitNL
    cases hs : splitNL t' with
    | nil => exact absurd hs (splitNL_ne_nil t')
    | cons h r =>
      by_cases hc : (c == 10) = true
      · have := ih []
        rw [hs] at this
        simp only [hc, if_true, prependFirst, List.append_nil, List.map_cons, List.filter_cons,
          List.nil_append] at this ⊢
        rw [trim_stripCR, this]
      · have := ih (cur ++ [c])
        rw [hs] at this
        simp only [hc, Bool.false_eq_true, if_false, prependFirst, List.append_assoc,
          List.singleton_append] at this ⊢
        exact this

theorem lines_nonblank (text : Seq) :
    ((lines text).map trim).filter (fun x => !x.isEmpty) =
      ((splitNL text).map trim).filter fun x => !x.isEmpty := by
  rw [lines, lines_vs_splitNL text []]
  cases splitNL text <;> simp [prependFirst, trim_nil]

theorem specRecs_lines (text : Seq) :
    specRecs ((lines text).map trim) = specRecs ((splitNL text).map trim) := by
  rw [← specRecs_filter, lines_nonblank, specRecs_filter]

theorem preHeader_lines (text : Seq) :
    preHeader ((lines text).map trim) = preHeader ((splitNL text).map trim) := by
  have hp : (fun x => !isHeader x) [] = true := by simp [isHeader]
  rw [preHeader, ← takeWhile_flatten_filter _ hp, lines_nonblank, takeWhile_flatten_filter _ hp, preHeader]


/-- **C05.fasta_roundtrip** — every layout of a list of records parses back to those records (with
    the decoy rule applied), in file order. The layout family: white-space-only lines `pre` before
    the first header; per record a raw header line that trims to `>` + id whose first token is the
    accession (so: padding, `> acc`, descriptions), then any raw lines that do not trim to a `>`-line
    (sequence chunks of ANY widths with any surrounding white space, blank lines anywhere) whose
    trimmed concatenation is the non-empty sequence; every line ended by its own LF or CRLF (`ls`),
    optionally a last line without terminator (which may end in a lone CR). Raw lines contain no LF,
    and a terminated line does not itself end in CR. -/
theorem fasta_roundtrip (tag : Seq) (gen : Bool) (pre : List Seq) (recs : List LRec)
    (ls : List (Seq × Bool)) (last : Seq)
    (hls : ls.map (·.1) ++ (if last.isEmpty then [] else [last]) = pre ++ recs.flatMap LRec.lines)
    (hclean : ∀ p ∈ ls, (10 : UInt8) ∉ p.1 ∧ p.1.getLast? ≠ some 13) (hlast : (10 : UInt8) ∉ last)
    (hpre : ∀ b ∈ pre, trim b = []) (hwf : ∀ r ∈ recs, r.WF) :
    parse tag gen (renderLines ls ++ last) = some (kept tag gen recs) := by
  have hblank : (pre.map trim).flatten = [] := List.flatten_eq_nil_iff.mpr fun l hl => by
    obtain ⟨b, hb, rfl⟩ := List.mem_map.mp hl
    exact hpre b hb
  rw [parse, lines_render ls last hclean hlast, hls, parse_body tag gen pre _ _ (fun b hb => by rw [hpre b hb]; simp),
    hblank, parse_records tag gen recs _ hwf]
  rfl

/-- **C05.fasta_decoy_rule** — decoy-tagged records (accession contains the tag) are dropped exactly
    when decoys are generated internally; otherwise every record is delivered. -/
theorem fasta_decoy_rule (tag : Seq) (gen : Bool) (recs : List LRec) :
    kept tag gen recs =
      if gen then (recs.filter fun r => !containsSub r.acc tag).map fun r => (r.acc, r.seq)
      else recs.map fun r => (r.acc, r.seq) := by
  cases gen
  · simp [kept, keep]
  · simp only [kept, keep, Bool.not_true, Bool.or_false, if_true, List.filter_map]
    rfl

-- non-vacuity: two records, CRLF and LF mixed, a blank first line, padding, a description, wrapped
-- sequence with a blank line inside, last line without terminator; the second record is decoy-tagged
instance (r : LRec) : Decidable r.WF := by unfold LRec.WF; infer_instance
def exRecs : List LRec := [⟨[32, 62, 80, 49, 32, 100, 32, 120, 32], [[65, 65, 75, 32], [], [32, 67, 67]], [80, 49, 32, 100, 32, 120], [80, 49]⟩, ⟨[62, 114, 101, 118, 95, 80, 49], [[75, 65, 65]], [114, 101, 118, 95, 80, 49], [114, 101, 118, 95, 80, 49]⟩]
def exLines : List (Seq × Bool) :=
  [([32, 32], false), ([32, 62, 80, 49, 32, 100, 32, 120, 32], true), ([65, 65, 75, 32], true), ([], false), ([32, 67, 67], true),
   ([62, 114, 101, 118, 95, 80, 49], false)]
theorem exRecs_wf : ∀ r ∈ exRecs, r.WF := by decide +kernel
example : ∀ r ∈ exRecs, r.WF := exRecs_wf
theorem exLines_parse (tag : Seq) (gen : Bool) :
    parse tag gen (renderLines exLines ++ [75, 65, 65]) = some (kept tag gen exRecs) :=
  fasta_roundtrip tag gen [[32, 32]] exRecs _ _ (by decide +kernel) (by decide +kernel) (by decide +kernel)
    (by decide +kernel) exRecs_wf
example : parse [114, 101, 118, 95] true (renderLines exLines ++ [75, 65, 65]) = some [([80, 49], [65, 65, 75, 67, 67])] :=
  (exLines_parse _ _).trans (by decide +kernel)
example : parse [114, 101, 118, 95] false (renderLines exLines ++ [75, 65, 65]) =
    some [([80, 49], [65, 65, 75, 67, 67]), ([114, 101, 118, 95, 80, 49], [75, 65, 65])] :=
  (exLines_parse _ _).trans (by decide +kernel)
example (tag : Seq) (gen : Bool) :
    parse tag gen (renderLines exLines ++ [75, 65, 65]) = some (kept tag gen exRecs) :=
  exLines_parse tag gen

/-- **C05.fasta_roundtrip_wrapped** — the constructive sub-family: records written as `>accession`
    and the sequence wrapped at ANY width `w ≥ 1`, all lines ended by LF or all by CRLF, parse back
    to exactly the records (decoy rule applied), for every list of records whose accessions and
    residues contain no white space (and residues no `>`). -/
theorem fasta_roundtrip_wrapped (tag : Seq) (gen : Bool) (w : Nat) (hw : 0 < w) (crlf : Bool)
    (recs : List (Seq × Seq)) (hr : ∀ r ∈ recs, cleanRec r) :
    parse tag gen (renderLines (((recs.map (wrapRec w)).flatMap LRec.lines).map fun l => (l, crlf))) =
      some (recs.filter fun r => keep tag gen r.1) := by
  have hk : kept tag gen (recs.map (wrapRec w)) = recs.filter fun r => keep tag gen r.1 := by
    rw [kept, List.map_map]
    refine congrArg _ ((List.map_congr_left fun r hrm => ?_).trans (List.map_id _))
    rw [Function.comp_apply, wrapRec_seq hw (hr r hrm)]
    rfl
  rw [← hk, ← List.append_nil (renderLines _)]
  refine fasta_roundtrip tag gen [] _ _ [] (by simp [List.map_map, Function.comp_def]) (fun p hp => ?_) (by simp)
    (by simp) fun lr hlr => ?_
  · obtain ⟨l, hl, rfl⟩ := List.mem_map.mp hp
    obtain ⟨lr, hlr, hl⟩ := List.mem_flatMap.mp hl
    obtain ⟨r, hrm, rfl⟩ := List.mem_map.mp hlr
    exact clean_line (wrapRec_lines_clean (hr r hrm) hl)
  · obtain ⟨r, hrm, rfl⟩ := List.mem_map.mp hlr
    exact wrapRec_wf hw (hr r hrm)
-- non-vacuity: width 2, CRLF
example : parse [114] true (renderLines ((([([80, 49], [65, 75, 65, 75, 65]), ([114, 80], [75, 75])].map
    (wrapRec 2)).flatMap LRec.lines).map fun l => (l, true))) = some [([80, 49], [65, 75, 65, 75, 65])] := by
  decide +kernel

/-- **C05.parse_eq** — for EVERY text (no layout hypothesis): the parser's result, panics included,
    is the specification's record list preceded by the pseudo-record "text before the first header". -/
theorem parse_eq (tag : Seq) (gen : Bool) (text : Seq) :
    parse tag gen text =
      (specNamed (([], preHeader ((splitNL text).map trim)) :: specRecs ((splitNL text).map trim))).map
        fun nm => nm.filter fun r => keep tag gen r.1 := by
  unfold parse
  rw [parseLines_eq_parseT, parseT_eq, ← specRecs_lines, ← preHeader_lines]
  simp

/-- **C05.parse_eq_spec_total** — when there is no sequence text before the first
    header, parser and specification agree completely (both fail exactly when some record with a
    sequence has no accession token). -/
theorem parse_eq_spec_total (tag : Seq) (gen : Bool) (text : Seq)
    (h : preHeader ((splitNL text).map trim) = []) :
    parse tag gen text = specFasta tag gen ((splitNL text).map trim) := by
  rw [parse_eq, specNamed_cons, h]
  unfold specFasta
  simp only [named1, List.isEmpty_nil, if_true, Option.bind_some, List.nil_append]
  cases specNamed (specRecs ((splitNL text).map trim)) <;> simp

/-- **C05.parse_eq_spec** — for every text on which the parser does not panic, its result equals the
    independent specification `specFasta` (records = maximal groups "header line, then non-header
    lines" over the `\n`-pieces, trimmed; accession = first token; records without sequence dropped;
    decoy rule) — the definition the driver evaluates on sage's output. -/
theorem parse_eq_spec (tag : Seq) (gen : Bool) (text : Seq) (r : List (Seq × Seq))
    (h : parse tag gen text = some r) : specFasta tag gen ((splitNL text).map trim) = some r := by
  rw [← parse_eq_spec_total tag gen text, h]
  -- text before the first header makes the parser panic
  rw [parse_eq, specNamed_cons] at h
  cases hp : preHeader ((splitNL text).map trim) with
  | nil => rfl
  | cons a t => simp [hp, named1, firstToken] at h

theorem parse_some {tag : Seq} {gen : Bool} {text : Seq} {r : List (Seq × Seq)}
    (h : parse tag gen text = some r) :
    ∃ all, specNamed (specRecs ((splitNL text).map trim)) = some all ∧
      (all.filter fun r => keep tag gen r.1) = r :=
  Option.map_eq_some_iff.mp (parse_eq_spec tag gen text r h)

/-- **C05.fasta_meets_spec** — the Boolean check the driver applies to sage's records accepts the
    model's records, for every text, tag and flag. -/
theorem fasta_meets_spec (tag : Seq) (gen : Bool) (text : Seq) (r : List (Seq × Seq))
    (h : parse tag gen text = some r) : fastaVerdict tag gen text r = "ok" := by
  obtain ⟨all, hs, rfl⟩ := parse_some h
  simp [fastaVerdict, hs]

-- non-vacuity: a text outside every tidy layout (header glued to a CR, VT, '>' inside a line, record
-- without sequence, tag inside the accession); parser and spec agree, and the check rejects a wrong list
def exText : Seq :=
  [62, 80, 49, 11, 120, 13, 10, 65, 62, 75, 13, 13, 10, 62, 81, 10, 62, 97, 114, 95, 98, 32, 100, 10, 32, 67, 67, 9, 10, 10, 75]
example : parse [114, 95] false exText = some [([80, 49, 11, 120], [65, 62, 75]), ([97, 114, 95, 98], [67, 67, 75])] := by
  decide +kernel
example : specFasta [114, 95] true ((splitNL exText).map trim) = some [([80, 49, 11, 120], [65, 62, 75])] := by decide +kernel
example : fastaVerdict [114, 95] true exText [([80, 49, 11, 120], [65, 62, 75]), ([97, 114, 95, 98], [67, 67, 75])]
    = "bad:decoy_rule" := by decide +kernel
-- text before the first header: the parser panics, so `parse_eq_spec` does not apply
example : parse [] false [65, 10, 62, 80, 10, 75] = none := by decide +kernel


theorem permB_refl (a : List FItem) : permB a a = true := by
  simp [permB]

theorem fastaDigestOf_eq_want (tag : Seq) (gen : Bool) (par : Params) (r : List (Seq × Seq))
    (hk : ∀ p ∈ r, keep tag gen p.1 = true) : fastaDigestOf tag gen par r = fdWant tag gen par r := by
  refine List.flatMap_congr fun p hp => ?_
  have := hk p hp
  -- a tagged record is kept only if decoys are not generated
  cases hc : containsSub p.1 tag <;> cases gen <;> simp [keep, hc] at this ⊢
theorem fdVerdict_want (tag : Seq) (gen : Bool) (par : Params) (text : Seq) (recs : List (Seq × Seq))
    (hs : specFasta tag gen ((splitNL text).map trim) = some recs) (k : Nat) :
    fdVerdict tag gen par text (List.replicate k (fdWant tag gen par recs)) = "ok" := by
  unfold fdVerdict
  rw [hs]
  cases k with
  | zero => rfl
  | succ k =>
    have h1 : ((List.replicate k (fdWant tag gen par recs)).any fun p => !permB p (fdWant tag gen par recs)) = false :=
      List.any_eq_false.mpr fun p hp => by rw [List.eq_of_mem_replicate hp, permB_refl]; decide
    have h2 : ((fdWant tag gen par recs).any fun it => it.decoy != (containsSub it.acc tag && !gen)) = false :=
      List.any_eq_false.mpr fun it hit => by
        simp only [fdWant, List.mem_flatMap, List.mem_map] at hit
        obtain ⟨p, _, d, _, rfl⟩ := hit
        simp
    simp [List.replicate_succ, h1, h2, permB_refl]

/-- **C05.fastaDigest_meets_spec** — `Fasta::digest` as modelled (every parsed record digested once,
    decoy-flagged by the tag rule) passes the check the driver applies to sage's per-pool outputs,
    for every text, tag, flag, enzyme setting and number of pools: no record is left undigested, the
    decoy flags follow the rule, and the result does not depend on the pool. -/
theorem fastaDigest_meets_spec (tag : Seq) (gen : Bool) (par : Params) (text : Seq) (items : List FItem)
    (k : Nat) (h : fastaDigest tag gen par text = some items) :
    fdVerdict tag gen par text (List.replicate k items) = "ok" := by
  obtain ⟨r, hp, rfl⟩ := Option.map_eq_some_iff.mp h
  have hk : ∀ p ∈ r, keep tag gen p.1 = true := by
    obtain ⟨all, _, rfl⟩ := parse_some hp
    exact fun p hp => (List.mem_filter.mp hp).2
  rw [fastaDigestOf_eq_want tag gen par r hk]
  exact fdVerdict_want tag gen par text r (parse_eq_spec tag gen text r hp) k

-- non-vacuity: two records, one decoy-tagged, decoys not generated: four flagged items; a per-pool
-- output that lost the last record is rejected
def exFd : Seq := [62, 80, 49, 10, 65, 65, 75, 67, 67, 75, 10, 62, 114, 95, 80, 50, 10, 68, 68, 75, 69, 69, 10]
def exPar : Params := ⟨0, 2, 50, some ⟨.cls [75], none, true, false⟩⟩
example : (fastaDigest [114, 95] false exPar exFd).map (fun l => l.map fun it => (it.acc, it.d.seq, it.decoy)) =
    some [([80, 49], [65, 65, 75], false), ([80, 49], [67, 67, 75], false),
      ([114, 95, 80, 50], [68, 68, 75], true), ([114, 95, 80, 50], [69, 69], true)] := by decide +kernel
example : fdVerdict [114, 95] false exPar exFd
    [(fastaDigestOf [114, 95] false exPar [([80, 49], [65, 65, 75, 67, 67, 75])])] = "bad:record_not_digested" := by
  decide +kernel

end Sage.C05
