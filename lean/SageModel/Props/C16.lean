import SageModel.Model.C16

/-!
# C16 — mzML parsing is faithful, local to each spectrum, and never panics

Property text: *Parsing an mzML document returns one spectrum per spectrum element, in order, with
exactly the encoded identifier, MS level, centroid/profile flag, scan start time converted to
minutes, injection time, m/z and intensity arrays (32- or 64-bit, zlib or uncompressed, decoded to
f32) and each precursor's m/z, charge, intensity, isolation window, spectrum reference and ion
mobility, applying the MS-level filter and signal-to-noise division when requested. What is returned
for one spectrum depends only on that spectrum's own element, never on those before it, and no
input makes the parser panic: it returns spectra or an error value.*

All theorems are about `Sage.C16.run` / `parse` (the model of `MzMLReader::parse` over abstract
events), for every number type `ν` with arbitrary operations, every configuration, every event
sequence of every length. The model is total by construction (every `step` returns a state or an
error value); that the Rust loop behaves like it — including "no panic" — is what the differential
run checks. XML lexing, base64, zlib and IEEE arithmetic are parameters of the model.
-/

namespace Sage.C16
open Num

variable {ν : Type} [Num ν]

set_option linter.unusedSectionVars false

theorem run_append (cfg : Config) (s : PState ν) (a b : List (Event ν)) :
    run cfg s (a ++ b) =
      match run cfg s a with
      | .error x => .error x
      | .ok (s', o) =>
        match run cfg s' b with
        | .error x => .error x
        | .ok (s'', o') => .ok (s'', o ++ o') := by
  induction a generalizing s with
  | nil =>
    simp only [List.nil_append, run]
    cases run cfg s b with
    | error x => rfl
    | ok r => rfl
  | cons e es ih =>
    simp only [List.cons_append, run]
    cases step cfg s e with
    | error x => rfl
    | ok r =>
      obtain ⟨s1, o1⟩ := r
      simp only [ih]
      cases run cfg s1 es with
      | error x => rfl
      | ok r2 =>
        obtain ⟨s2, o2⟩ := r2
        simp only
        cases run cfg s2 b with
        | error x => rfl
        | ok r3 => simp only [List.append_assoc]

theorem run_append_ok {cfg : Config} {s s1 s2 : PState ν} {a b : List (Event ν)} {o1 o2 : List (Spectrum ν)}
    (h1 : run cfg s a = .ok (s1, o1)) (h2 : run cfg s1 b = .ok (s2, o2)) :
    run cfg s (a ++ b) = .ok (s2, o1 ++ o2) := by
  simp only [run_append, h1, h2]

theorem run_cons_silent {cfg : Config} {s s1 s2 : PState ν} {e : Event ν} {es : List (Event ν)}
    {out : List (Spectrum ν)} (h1 : step cfg s e = .ok (s1, none)) (h2 : run cfg s1 es = .ok (s2, out)) :
    run cfg s (e :: es) = .ok (s2, out) := by
  simp only [run, h1, h2, Option.toList, List.nil_append]

theorem run_filter (cfg : Config) (keep : Event ν → Bool)
    (h : ∀ (s : PState ν) e, keep e = false → step cfg s e = .ok (s, none)) (s : PState ν) (evs : List (Event ν)) :
    run cfg s evs = run cfg s (evs.filter keep) := by
  induction evs generalizing s with
  | nil => rfl
  | cons e es ih =>
    cases hk : keep e with
    | false =>
      rw [List.filter_cons_of_neg (Bool.eq_false_iff.mp hk), ← ih s]
      simp only [run, h s e hk, Option.toList, List.nil_append]
      cases run cfg s es <;> rfl
    | true =>
      rw [List.filter_cons_of_pos hk, run, run]
      cases step cfg s e with
      | error x => rfl
      | ok r => simp only [ih r.1]

theorem step_inert (cfg : Config) (s : PState ν) (e : Event ν) (h : e.inert = true) :
    step cfg s e = .ok (s, none) := by
  cases e with
  | start t id ref => cases t <;> first | rfl | cases h
  | stop t =>
    cases t with
    | other n =>
      obtain ⟨st, c, d, k, sp, pr, lo, hi, nz⟩ := s
      cases st with
      | none => rfl
      | some st => cases st <;> rfl
    | _ => cases h
  | empty t => rfl
  | lengthAttr t => rfl
  | _ => cases h

theorem lastOf_cons (f : Cv → Bool) (p : Param ν) (ps : List (Param ν)) :
    lastOf f (p :: ps) = (lastOf f ps).or (if f p.c then some p else none) := by
  rw [lastOf]
  cases lastOf f ps <;> rfl

theorem lastOf_append (f : Cv → Bool) (a b : List (Param ν)) :
    lastOf f (a ++ b) = (lastOf f b).or (lastOf f a) := by
  induction a with
  | nil => exact Option.or_none.symm
  | cons p ps ih => rw [List.cons_append, lastOf_cons, ih, lastOf_cons, Option.or_assoc]

theorem lastOf_cons_getD {β : Type} (f : Cv → Bool) (g : Param ν → β) (p : Param ν) (ps : List (Param ν)) (a : β) :
    ((lastOf f (p :: ps)).map g).getD a = ((lastOf f ps).map g).getD (if f p.c then g p else a) := by
  rw [lastOf_cons, Option.map_or, Option.getD_or]
  cases f p.c <;> rfl

theorem lastOf_eq_none_iff (f : Cv → Bool) (ps : List (Param ν)) :
    lastOf f ps = none ↔ ∀ p ∈ ps, f p.c = false := by
  induction ps with
  | nil => simp [lastOf]
  | cons p ps ih => simp [lastOf_cons, Option.or_eq_none_iff, ih, and_comm]

theorem Val.float_of_ok {v : Val ν} (h : v.okFloat = true) : v.float = .ok v.fltD := by
  cases v <;> first | rfl | cases h

theorem Val.u8_of_ok {v : Val ν} (h : v.okU8 = true) : v.u8 = .ok v.natD := by
  cases v with
  | nat n => exact if_pos (of_decide_eq_true h)
  | _ => cases h

/-- `upd s ps` is what the look-ups of `denote` make of the cvParams `ps` on top of `s`, one instance per element kind -/
theorem run_cvs {cfg : Config} {st : St} {ok : Param ν → Prop} {upd : PState ν → List (Param ν) → PState ν}
    (hcv : ∀ s p, s.state = some st → ok p → onCv cfg s p.c p.v p.u = .ok (upd s [p]))
    (hst : ∀ s p, (upd s [p]).state = s.state) (hnil : ∀ s, upd s [] = s)
    (happ : ∀ s a b, upd s (a ++ b) = upd (upd s a) b)
    (ps : List (Param ν)) (s : PState ν) (hs : s.state = some st) (hok : ∀ p ∈ ps, ok p) :
    run cfg s (ps.map Param.ev) = .ok (upd s ps, []) := by
  induction ps generalizing s with
  | nil => rw [hnil]; rfl
  | cons p ps ih =>
    obtain ⟨hp, hps⟩ := List.forall_mem_cons.mp hok
    rw [show upd s (p :: ps) = _ from happ s [p] ps]
    exact run_cons_silent (by rw [Param.ev, step, hcv s p hs hp]) (ih _ ((hst s p).trans hs) hps)

def scanUpd (s : PState ν) (ps : List (Param ν)) : PState ν :=
  { s with
    spectrum := { s.spectrum with
      startTime := ((lastOf (isCv .scanStart) ps).map Param.startVal).getD s.spectrum.startTime
      injection := ((lastOf (isCv .injectionTime) ps).map (fun p => p.v.fltD)).getD s.spectrum.injection }
    precursor := { s.precursor with
      mobility := ((lastOf (isCv .invMobility) ps).map (fun p => p.v.fltD)).or s.precursor.mobility } }

theorem scanUpd_append (s : PState ν) (a b : List (Param ν)) : scanUpd s (a ++ b) = scanUpd (scanUpd s a) b := by
  simp only [scanUpd, lastOf_append, Option.map_or, Option.getD_or, Option.or_assoc]

theorem cvScan_ok (cfg : Config) (s : PState ν) (p : Param ν) (hs : s.state = some .scan) (h : p.okScan = true) :
    onCv cfg s p.c p.v p.u = .ok (scanUpd s [p]) := by
  obtain ⟨c, v, u⟩ := p
  simp only [onCv, hs]
  unfold cvScan
  split
  · cases h
  · have ⟨hv, hu⟩ := Bool.and_eq_true_iff.mp h
    rw [Val.float_of_ok hv]
    cases u <;> first | rfl | cases hu
  · rw [Val.float_of_ok h]; rfl
  · rw [Val.float_of_ok h]; rfl
  · next _ h2 h3 h4 =>
    simp only [scanUpd, lastOf, isCv, beq_false_of_ne h2, beq_false_of_ne h3, beq_false_of_ne h4]
    rfl

theorem run_scanEvents (cfg : Config) (ps : List (Param ν)) (s : PState ν) (hs : s.state = some .spectrum)
    (hok : ∀ p ∈ ps, p.okScan = true) :
    run cfg s (scanEvents ps) = .ok (scanUpd s ps, []) := by
  obtain ⟨st, c, d, k, sp, pr, lo, hi, nz⟩ := s
  cases hs
  exact run_cons_silent rfl (run_append_ok
    (run_cvs (cvScan_ok cfg) (fun _ _ => rfl) (fun _ => rfl) scanUpd_append ps _ rfl hok) (run_cons_silent rfl rfl))

theorem run_scans (cfg : Config) (scans : List (List (Param ν))) (s : PState ν) (hs : s.state = some .spectrum)
    (hok : ∀ ps ∈ scans, ∀ p ∈ ps, p.okScan = true) :
    run cfg s (scans.flatMap scanEvents) = .ok (scanUpd s scans.flatten, []) := by
  induction scans generalizing s with
  | nil => rfl
  | cons ps rest ih =>
    obtain ⟨hps, hrest⟩ := List.forall_mem_cons.mp hok
    rw [List.flatMap_cons, List.flatten_cons, scanUpd_append]
    exact run_append_ok (run_scanEvents cfg ps s hs hps) (ih (scanUpd s ps) hs hrest)

def allows (cfg : Config) (lv : Nat) : Bool :=
  match cfg.filter with
  | some f => lv == f
  | none => true

theorem allows_of_no_filter {cfg : Config} (hf : cfg.filter = none) (lv : Nat) : allows cfg lv = true := by
  unfold allows
  rw [hf]

def specUpd (s : PState ν) (ps : List (Param ν)) : PState ν :=
  { s with
    spectrum := { s.spectrum with
      level := ((lastOf (isCv .msLevel) ps).map (fun p => p.v.natD)).getD s.spectrum.level
      centroid := ((lastOf isRepr ps).map (fun p => p.c == .centroid)).getD s.spectrum.centroid
      tic := ((lastOf (isCv .tic) ps).map (fun p => p.v.fltD)).getD s.spectrum.tic } }

theorem specUpd_append (s : PState ν) (a b : List (Param ν)) : specUpd s (a ++ b) = specUpd (specUpd s a) b := by
  simp only [specUpd, lastOf_append, Option.map_or, Option.getD_or]

theorem cvSpectrum_ok (cfg : Config) (s : PState ν) (p : Param ν) (hs : s.state = some .spectrum)
    (h : p.okSpectrum = true ∧ (p.c = .msLevel → allows cfg p.v.natD = true)) :
    onCv cfg s p.c p.v p.u = .ok (specUpd s [p]) := by
  obtain ⟨c, v, u⟩ := p
  obtain ⟨h, hl⟩ := h
  simp only [onCv, hs]
  unfold cvSpectrum
  split
  · cases h
  · rw [Val.u8_of_ok h]
    have ha := hl rfl
    unfold allows at ha
    cases hf : cfg.filter with
    | none => rfl
    | some f =>
      rw [hf] at ha
      simp only [bne, ha, Bool.not_true, Bool.false_eq_true, if_false]
      rfl
  · rfl
  · rfl
  · rw [Val.float_of_ok h]; rfl
  · next _ h2 h3 h4 h5 =>
    simp only [specUpd, lastOf, isCv, isRepr, beq_false_of_ne h2, beq_false_of_ne h3, beq_false_of_ne h4,
      beq_false_of_ne h5]
    rfl

def precUpd (s : PState ν) (ps : List (Param ν)) : PState ν :=
  { s with
    isoLo := ((lastOf (isCv .isoLower) ps).map (fun p => p.v.fltD)).or s.isoLo
    isoHi := ((lastOf (isCv .isoUpper) ps).map (fun p => p.v.fltD)).or s.isoHi }

theorem precUpd_append (s : PState ν) (a b : List (Param ν)) : precUpd s (a ++ b) = precUpd (precUpd s a) b := by
  simp only [precUpd, lastOf_append, Option.map_or, Option.or_assoc]

theorem cvPrecursor_ok (cfg : Config) (s : PState ν) (p : Param ν) (hs : s.state = some .precursor)
    (h : p.okPrecursor = true) : onCv cfg s p.c p.v p.u = .ok (precUpd s [p]) := by
  obtain ⟨c, v, u⟩ := p
  simp only [onCv, hs]
  unfold cvPrecursor
  split
  · cases h
  · rw [Val.float_of_ok h]; rfl
  · rw [Val.float_of_ok h]; rfl
  · next _ h2 h3 =>
    simp only [precUpd, lastOf, isCv, beq_false_of_ne h2, beq_false_of_ne h3]
    rfl

def ionUpd (s : PState ν) (ps : List (Param ν)) : PState ν :=
  { s with
    precursor := { s.precursor with
      mz := ((lastOf (isCv .selMz) ps).map (fun p => p.v.fltD)).getD s.precursor.mz
      intensity := ((lastOf (isCv .selInt) ps).map (fun p => p.v.fltD)).or s.precursor.intensity
      charge := ((lastOf (isCv .selCharge) ps).map (fun p => p.v.natD)).or s.precursor.charge
      mobility := ((lastOf (isCv .invMobility) ps).map (fun p => p.v.fltD)).or s.precursor.mobility } }

theorem ionUpd_append (s : PState ν) (a b : List (Param ν)) : ionUpd s (a ++ b) = ionUpd (ionUpd s a) b := by
  simp only [ionUpd, lastOf_append, Option.map_or, Option.getD_or, Option.or_assoc]

theorem cvSelectedIon_ok (cfg : Config) (s : PState ν) (p : Param ν) (hs : s.state = some .selectedIon)
    (h : p.okIon = true) : onCv cfg s p.c p.v p.u = .ok (ionUpd s [p]) := by
  obtain ⟨c, v, u⟩ := p
  simp only [onCv, hs]
  unfold cvSelectedIon
  split
  · cases h
  · rw [Val.u8_of_ok h]; rfl
  · rw [Val.float_of_ok h]; rfl
  · rw [Val.float_of_ok h]; rfl
  · rw [Val.float_of_ok h]; rfl
  · next _ h2 h3 h4 h5 =>
    simp only [ionUpd, lastOf, isCv, beq_false_of_ne h2, beq_false_of_ne h3, beq_false_of_ne h4, beq_false_of_ne h5]
    rfl

theorem run_ionEvents (cfg : Config) (ps : List (Param ν)) (s : PState ν) (hs : s.state = some .precursor)
    (hok : ∀ p ∈ ps, p.okIon = true) :
    run cfg s (ionEvents ps) = .ok (ionUpd s ps, []) := by
  obtain ⟨st, c, d, k, sp, pr, lo, hi, nz⟩ := s
  cases hs
  exact run_cons_silent rfl (run_append_ok
    (run_cvs (cvSelectedIon_ok cfg) (fun _ _ => rfl) (fun _ => rfl) ionUpd_append ps _ rfl hok)
    (run_cons_silent rfl rfl))

theorem run_ions (cfg : Config) (ions : List (List (Param ν))) (s : PState ν) (hs : s.state = some .precursor)
    (hok : ∀ ps ∈ ions, ∀ p ∈ ps, p.okIon = true) :
    run cfg s (ions.flatMap ionEvents) = .ok (ionUpd s ions.flatten, []) := by
  induction ions generalizing s with
  | nil => rfl
  | cons ps rest ih =>
    obtain ⟨hps, hrest⟩ := List.forall_mem_cons.mp hok
    rw [List.flatMap_cons, List.flatten_cons, ionUpd_append]
    exact run_append_ok (run_ionEvents cfg ps s hs hps) (ih (ionUpd s ps) hs hrest)

/-- a child of `<spectrum>`; a `SpecElU` lists them in document order, whatever it is -/
inductive Child (ν : Type)
  | param (p : Param ν)
  | scan (ps : List (Param ν))
  | prec (p : PrecEl ν)
  | arr (a : ArrEl ν)

structure SpecElU (ν : Type) where
  id : String
  children : List (Child ν)

def Child.events : Child ν → List (Event ν)
  | .param p => [p.ev]
  | .scan ps => scanEvents ps
  | .prec p => p.events
  | .arr a => a.events

def SpecElU.events (e : SpecElU ν) : List (Event ν) :=
  .start .spectrum (some e.id) none :: (e.children.flatMap Child.events ++ [.stop .spectrum])

def Child.wf : Child ν → Bool
  | .param p => p.okSpectrum
  | .scan ps => ps.all Param.okScan
  | .prec p => p.wf
  | .arr a => a.wf

/-- `pendingMob`: the ion mobility a `<scan>` announced for the next `<precursor>` -/
structure Acc (ν : Type) where
  spectrum : Spectrum ν
  noise : List ν
  pendingMob : Option ν

def Acc.step (a : Acc ν) : Child ν → Acc ν
  | .param p =>
    { a with spectrum := { a.spectrum with
        level := if isCv .msLevel p.c then p.v.natD else a.spectrum.level
        centroid := if isRepr p.c then p.c == .centroid else a.spectrum.centroid
        tic := if isCv .tic p.c then p.v.fltD else a.spectrum.tic } }
  | .scan ps =>
    { a with
      spectrum := { a.spectrum with
        startTime := ((lastOf (isCv .scanStart) ps).map Param.startVal).getD a.spectrum.startTime
        injection := ((lastOf (isCv .injectionTime) ps).map (fun p => p.v.fltD)).getD a.spectrum.injection }
      pendingMob := ((lastOf (isCv .invMobility) ps).map (fun p => p.v.fltD)).or a.pendingMob }
  | .prec p =>
    { a with
      spectrum := { a.spectrum with precursors := a.spectrum.precursors ++ (denotePrec a.pendingMob p).toList }
      pendingMob := none }
  | .arr x =>
    { a with
      spectrum := { a.spectrum with
        mz := if x.kind == some .mz then x.values.getD a.spectrum.mz else a.spectrum.mz
        intensity := if x.kind == some .intensity then x.values.getD a.spectrum.intensity else a.spectrum.intensity }
      noise := if x.kind == some .noise then x.values.getD a.noise else a.noise }

def readingU (cfg : Config) (e : SpecElU ν) : Spectrum ν :=
  let a := e.children.foldl Acc.step ⟨{ (Spectrum.blank : Spectrum ν) with id := e.id }, [], none⟩
  { a.spectrum with
    intensity := if cfg.sn == some a.spectrum.level && !a.noise.isEmpty then zipDiv a.spectrum.intensity a.noise
                 else a.spectrum.intensity }

def Acc.toState (a : Acc ν) (c d : Bool) (k : Option Kind) : PState ν :=
  ⟨some .spectrum, c, d, k, a.spectrum, { (Precursor.blank : Precursor ν) with mobility := a.pendingMob }, none, none, a.noise⟩

theorem onStart_precursor (s : PState ν) (ref : Option String) :
    onStart s .precursor none ref =
      .ok { s with state := transStart .precursor s.state,
                   precursor := { s.precursor with spectrumRef := ref.or s.precursor.spectrumRef } } := by
  cases ref <;> rfl

theorem onEnd_precursor (cfg : Config) (s : PState ν) (hs : s.state = some .precursor) :
    onEnd cfg s .precursor =
      ({ s with
          spectrum := { s.spectrum with precursors := s.spectrum.precursors ++
            (if isZero s.precursor.mz then none else some (finishPrecursor s)).toList }
          precursor := Precursor.blank, isoLo := none, isoHi := none, state := some .spectrum }, none) := by
  unfold onEnd
  rw [hs]
  cases isZero s.precursor.mz
  · rfl
  · simp only [Bool.not_true, Bool.false_eq_true, if_false, if_true, Option.toList, List.append_nil]

theorem finish_eq_denotePrec (p : PrecEl ν) (m0 : Option ν) (s : PState ν)
    (hpr : s.precursor = { (Precursor.blank : Precursor ν) with spectrumRef := p.ref, mobility := m0 })
    (hlo : s.isoLo = none) (hhi : s.isoHi = none) :
    (if isZero (precUpd (ionUpd (precUpd s p.iso) p.ions.flatten) p.act).precursor.mz then none
      else some (finishPrecursor (precUpd (ionUpd (precUpd s p.iso) p.ions.flatten) p.act))) = denotePrec m0 p := by
  simp only [precUpd, ionUpd, finishPrecursor, denotePrec, fltOf, natOf, hpr, hlo, hhi, Precursor.blank,
    lastOf_append, Option.map_or, Option.or_none]
  cases lastOf (isCv Cv.invMobility) p.ions.flatten <;> rfl

theorem run_prec (cfg : Config) (p : PrecEl ν) (a : Acc ν) (c d : Bool) (k : Option Kind) (hwf : p.wf = true) :
    run cfg (a.toState c d k) p.events = .ok ((a.step (.prec p)).toState c d k, []) := by
  simp only [PrecEl.wf, Bool.and_eq_true, List.all_eq_true] at hwf
  obtain ⟨⟨hiso, hact⟩, hions⟩ := hwf
  have hcvs (ps : List (Param ν)) (s : PState ν) := run_cvs (cvPrecursor_ok cfg) (fun _ _ => rfl) (fun _ => rfl)
    precUpd_append ps s
  refine run_cons_silent (by rw [step, onStart_precursor]) (run_append_ok (hcvs p.iso _ rfl hiso)
    (run_append_ok (run_ions cfg p.ions _ rfl hions) (run_append_ok (hcvs p.act _ rfl hact)
      (run_cons_silent ?_ rfl))))
  rw [step, onEnd_precursor _ _ rfl, finish_eq_denotePrec p a.pendingMob _ (by cases p.ref <;> rfl) rfl rfl]
  rfl

/-- only the first precursor sees the mobility a scan left behind -/
def precsUpd (a : Acc ν) (precs : List (PrecEl ν)) : Acc ν :=
  { a with
    spectrum := { a.spectrum with precursors := a.spectrum.precursors ++ denotePrecs a.pendingMob precs }
    pendingMob := if precs.isEmpty then a.pendingMob else none }

theorem run_precs (cfg : Config) (precs : List (PrecEl ν)) (a : Acc ν) (c d : Bool) (k : Option Kind)
    (hwf : ∀ p ∈ precs, p.wf = true) :
    run cfg (a.toState c d k) (precs.flatMap PrecEl.events) = .ok ((precsUpd a precs).toState c d k, []) := by
  induction precs generalizing a with
  | nil => simp [run, denotePrecs, precsUpd]
  | cons p rest ih =>
    obtain ⟨hwp, hwrest⟩ := List.forall_mem_cons.mp hwf
    refine (run_append_ok (run_prec cfg p a c d k hwp) (ih _ hwrest)).trans ?_
    simp only [precsUpd, Acc.step, denotePrecs, List.append_assoc, List.isEmpty_cons, ite_self, Bool.false_eq_true,
      if_false, List.append_nil]

def bdaUpd (s : PState ν) (ps : List (Param ν)) : PState ν :=
  { s with
    compression := ((lastOf isComp ps).map (fun p => p.c == .zlib)).getD s.compression
    dtype64 := ((lastOf isDtype ps).map (fun p => p.c == .f64)).getD s.dtype64
    kind := ((lastOf isKindish ps).map (fun p => p.c.kind)).getD s.kind }

theorem bdaUpd_append (s : PState ν) (a b : List (Param ν)) : bdaUpd s (a ++ b) = bdaUpd (bdaUpd s a) b := by
  simp only [bdaUpd, lastOf_append, Option.map_or, Option.getD_or]

theorem cvBda_ok (cfg : Config) (s : PState ν) (p : Param ν) (hs : s.state = some .binaryDataArray)
    (h : (p.c != .missing) = true) : onCv cfg s p.c p.v p.u = .ok (bdaUpd s [p]) := by
  obtain ⟨c, v, u⟩ := p
  rw [onCv, hs]
  cases c <;> first | rfl | cases h

def readPayload (s : PState ν) : Payload → Except Err (PState ν)
  | .empty => .ok s
  | .badB64 => if s.kind.isNone then .ok s else .error .base64
  | .data wire inflated =>
    if wire.isEmpty then .ok s else
    match s.kind with
    | none => .ok s
    | some k =>
      if s.compression then
        match inflated with
        | none => .error .io
        | some b => .ok (storeArray s k (decode s.dtype64 b))
      else .ok (storeArray s k (decode s.dtype64 wire))

theorem onText_eq (cfg : Config) (s : PState ν) (p : Payload) :
    onText cfg s p =
      if s.state = some .binary ∧ allows cfg s.spectrum.level = true then readPayload s p else .ok s := by
  unfold onText allows
  by_cases hb : s.state = some .binary
  · rw [if_neg (not_not_intro hb)]
    cases cfg.filter with
    | none => exact (if_pos ⟨hb, rfl⟩).symm
    | some f =>
      cases hl : s.spectrum.level == f with
      | true => simp only [bne, hl, Bool.not_true, Bool.false_eq_true, if_false, hb, and_self, if_true]; rfl
      | false => simp only [bne, hl, Bool.not_false, if_true, Bool.false_eq_true, and_false, if_false]
  · rw [if_pos hb, if_neg (fun h => hb h.1)]

theorem bdaUpd_wf (a : ArrEl ν) (s : PState ν) (hc : a.params.any (fun p => isComp p.c) = true)
    (hd : a.params.any (fun p => isDtype p.c) = true) (hk : a.params.any (fun p => isKindish p.c) = true) :
    bdaUpd s a.params = { s with compression := a.zlib, dtype64 := a.is64, kind := a.kind } := by
  have e (f : Cv → Bool) {β : Type} (g : Param ν → β) (x y : β) (h : a.params.any (fun p => f p.c) = true) :
      ((lastOf f a.params).map g).getD x = ((lastOf f a.params).map g).getD y := by
    cases h' : lastOf f a.params with
    | none =>
      obtain ⟨p, hp, hfp⟩ := List.any_eq_true.mp h
      rw [(lastOf_eq_none_iff f a.params).mp h' p hp] at hfp
      cases hfp
    | some q => rfl
  unfold bdaUpd ArrEl.zlib ArrEl.is64 ArrEl.kind
  rw [e isComp _ _ false hc, e isDtype _ _ true hd, e isKindish _ _ none hk]

def arrStore (s : PState ν) (a : ArrEl ν) : PState ν :=
  { s with
    spectrum := { s.spectrum with
      mz := if a.kind == some .mz then a.values.getD s.spectrum.mz else s.spectrum.mz
      intensity := if a.kind == some .intensity then a.values.getD s.spectrum.intensity else s.spectrum.intensity }
    noise := if a.kind == some .noise then a.values.getD s.noise else s.noise }

theorem step_text_wf (cfg : Config) (a : ArrEl ν) (s : PState ν) (b : Bool) (hb : allows cfg s.spectrum.level = b)
    (hs : s.state = some .binary) (hk : s.kind = a.kind) (hc : s.compression = a.zlib) (hd : s.dtype64 = a.is64)
    (hpay : (match a.kind, a.payload with
      | none, _ => true
      | some _, .empty => true
      | some _, .badB64 => false
      | some _, .data wire inflated => wire.isEmpty || !a.zlib || inflated.isSome) = true) :
    ∃ k, step cfg s (.text a.payload) = .ok ({ (if b then arrStore s a else s) with kind := k }, none) := by
  rw [step, onText_eq]
  cases b with
  | false => exact ⟨s.kind, by rw [if_neg (fun h => Bool.false_ne_true (hb.symm.trans h.2))]; rfl⟩
  | true =>
    rw [if_pos ⟨hs, hb⟩]
    suffices h : ∃ k, readPayload s a.payload = .ok { arrStore s a with kind := k } by
      obtain ⟨k, h⟩ := h
      exact ⟨k, by rw [h]; rfl⟩
    unfold readPayload
    rw [hk, hc, hd]
    unfold arrStore ArrEl.values
    revert hpay
    -- kind, payload, empty or not, compression flag and inflation decide both sides; the rest is computation
    cases a.kind with
    | none =>
      refine fun _ => ⟨s.kind, ?_⟩
      cases a.payload with
      | data w i => cases w <;> rfl
      | _ => rfl
    | some kd =>
      cases a.payload with
      | empty => exact fun _ => ⟨s.kind, by cases kd <;> rfl⟩
      | badB64 => exact fun h => by cases h
      | data w i =>
        cases w with
        | nil => exact fun _ => ⟨s.kind, by cases kd <;> rfl⟩
        | cons x xs =>
          cases hz : a.zlib with
          | false => exact fun _ => ⟨none, by cases kd <;> rfl⟩
          | true =>
            cases i with
            | none => exact fun h => by cases h
            | some b => exact fun _ => ⟨none, by cases kd <;> rfl⟩

theorem run_arr (cfg : Config) (a : ArrEl ν) (s : PState ν) (b : Bool) (hb : allows cfg s.spectrum.level = b)
    (hs : s.state = some .spectrum) (hwf : a.wf = true) :
    ∃ k, run cfg s a.events =
      .ok ({ (if b then arrStore s a else s) with compression := a.zlib, dtype64 := a.is64, kind := k }, []) := by
  simp only [ArrEl.wf, Bool.and_eq_true, List.all_eq_true] at hwf
  obtain ⟨⟨⟨⟨hmiss, hc⟩, hd⟩, hk⟩, hpay⟩ := hwf
  obtain ⟨st, c, d, k, sp, pr, lo, hi, nz⟩ := s
  cases hs
  have h1 := run_cvs (cvBda_ok cfg) (fun _ _ => rfl) (fun _ => rfl) bdaUpd_append a.params
    ⟨some .binaryDataArray, c, d, k, sp, pr, lo, hi, nz⟩ rfl hmiss
  rw [bdaUpd_wf a _ hc hd hk] at h1
  obtain ⟨k', ht⟩ := step_text_wf cfg a ⟨some .binary, a.zlib, a.is64, a.kind, sp, pr, lo, hi, nz⟩ b hb rfl rfl rfl rfl hpay
  refine ⟨k', ?_⟩
  cases b <;> exact run_cons_silent rfl (run_append_ok h1 (run_cons_silent rfl (run_cons_silent ht
    (run_cons_silent rfl (run_cons_silent rfl rfl)))))

theorem lastArr_cons_getD (k : Kind) (a : ArrEl ν) (as : List (ArrEl ν)) (x : List ν) :
    (lastArr k (a :: as)).getD x = (lastArr k as).getD (if a.kind == some k then a.values.getD x else x) := by
  rw [lastArr]
  cases lastArr k as with
  | some v => rfl
  | none => cases a.kind == some k <;> rfl

def arrsUpd (s : PState ν) (as : List (ArrEl ν)) : PState ν :=
  { s with
    spectrum := { s.spectrum with
      mz := (lastArr .mz as).getD s.spectrum.mz
      intensity := (lastArr .intensity as).getD s.spectrum.intensity }
    noise := (lastArr .noise as).getD s.noise }

theorem run_arrs (cfg : Config) (as : List (ArrEl ν)) (s : PState ν) (b : Bool)
    (hb : allows cfg s.spectrum.level = b) (hs : s.state = some .spectrum) (hwf : ∀ a ∈ as, a.wf = true) :
    ∃ c d k, run cfg s (as.flatMap ArrEl.events) =
      .ok ({ (if b then arrsUpd s as else s) with compression := c, dtype64 := d, kind := k }, []) := by
  induction as generalizing s with
  | nil => exact ⟨s.compression, s.dtype64, s.kind, by cases b <;> rfl⟩
  | cons a rest ih =>
    obtain ⟨hwa, hwrest⟩ := List.forall_mem_cons.mp hwf
    obtain ⟨k1, h1⟩ := run_arr cfg a s b hb hs hwa
    obtain ⟨c, d, k, h2⟩ := ih { (if b then arrStore s a else s) with compression := a.zlib, dtype64 := a.is64, kind := k1 }
      (by cases b <;> exact hb) (by cases b <;> exact hs) hwrest
    refine ⟨c, d, k, (run_append_ok h1 h2).trans ?_⟩
    cases b
    · rfl
    · simp only [arrsUpd, arrStore, lastArr_cons_getD, if_true, List.append_nil]

def PState.opened (id : String) (c d : Bool) (k : Option Kind) : PState ν :=
  ⟨some .spectrum, c, d, k, { (Spectrum.blank : Spectrum ν) with id := id }, Precursor.blank, none, none, []⟩

theorem onEnd_spectrum (cfg : Config) (s : PState ν) :
    onEnd cfg s .spectrum = (PState.fresh s.compression s.dtype64 s.kind, emit cfg s) := by
  unfold onEnd PState.fresh
  cases h : s.state with
  | none => rfl
  | some st => cases st <;> rfl

theorem run_stop_spectrum {cfg : Config} {s : PState ν} {o : Option (Spectrum ν)} (h : emit cfg s = o) :
    run cfg s [.stop .spectrum] = .ok (PState.fresh s.compression s.dtype64 s.kind, o.toList) := by
  simp only [run, step, onEnd_spectrum, h, List.append_nil]

/-- 0 when the element declares no level, as in the code -/
def levelOf (e : SpecEl ν) : Nat := (natOf .msLevel e.params).getD 0

theorem emit_eq {cfg : Config} {s : PState ν} {b : Bool} (h : allows cfg s.spectrum.level = b) :
    emit cfg s =
      if b then
        some { s.spectrum with
          intensity := if cfg.sn == some s.spectrum.level && !s.noise.isEmpty then zipDiv s.spectrum.intensity s.noise
                       else s.spectrum.intensity }
      else none := by
  subst h
  have hf : emit cfg s = if allows cfg s.spectrum.level then emit { cfg with filter := none } s else none := by
    unfold allows emit
    cases cfg.filter with
    | none => rfl
    | some f =>
      simp only [BEq.comm (a := f)]
      cases s.spectrum.level == f <;> rfl
  rw [hf]
  cases allows cfg s.spectrum.level with
  | false => rfl
  | true =>
    unfold emit
    cases cfg.sn <;> simp
    split <;> rfl

theorem denote_eq {cfg : Config} {e : SpecEl ν} {b : Bool} (h : allows cfg (levelOf e) = b) :
    denote cfg e = if b then some (reading cfg e) else none := by
  subst h
  unfold allows denote levelOf
  cases cfg.filter with
  | none => rfl
  | some f => cases h : (natOf .msLevel e.params).getD 0 == f <;> simp [bne, h]

theorem elem_read (cfg : Config) (e : SpecEl ν) (c d : Bool) (k : Option Kind) (hwf : e.wf = true)
    (hall : ∀ p ∈ e.params, p.c = .msLevel → allows cfg p.v.natD = true) :
    ∃ c' d' k', run cfg (PState.fresh c d k) e.events = .ok (PState.fresh c' d' k', (denote cfg e).toList) := by
  simp only [SpecEl.wf, Bool.and_eq_true, List.all_eq_true, decide_eq_true_eq] at hwf
  obtain ⟨⟨⟨⟨hps, _⟩, hsc⟩, hpr⟩, har⟩ := hwf
  have h1 := run_cvs (cvSpectrum_ok cfg) (fun _ _ => rfl) (fun _ => rfl) specUpd_append e.params
    (PState.opened e.id c d k) rfl (fun p hp => ⟨hps p hp, hall p hp⟩)
  have h2 := run_scans cfg e.scans (specUpd (PState.opened e.id c d k) e.params) rfl hsc
  have h3 := run_precs cfg e.precs ⟨(scanUpd (specUpd (PState.opened e.id c d k) e.params) e.scans.flatten).spectrum,
    [], (fltOf .invMobility e.scans.flatten).or none⟩ c d k hpr
  conv at h3 => rhs; rw [Option.or_none]
  obtain ⟨b, ha⟩ : ∃ b, allows cfg (levelOf e) = b := ⟨_, rfl⟩
  obtain ⟨c', d', k', h4⟩ := run_arrs cfg e.arrays (Acc.toState (precsUpd
    ⟨(scanUpd (specUpd (PState.opened e.id c d k) e.params) e.scans.flatten).spectrum, [],
      fltOf .invMobility e.scans.flatten⟩ e.precs) c d k) b ha rfl har
  refine ⟨c', d', k', run_cons_silent rfl (run_append_ok h1 (run_append_ok h2 (run_append_ok h3
    (run_append_ok h4 (run_stop_spectrum ?_)))))⟩
  cases b
  -- by way of `none`: asked to identify the two `if false = true …` sides directly, Lean compares their dead
  -- branches (stored vs skipped arrays) before it evaluates the condition
  · exact ((emit_eq ha).trans (if_neg Bool.false_ne_true)).trans
      ((denote_eq ha).trans (if_neg Bool.false_ne_true)).symm
  · exact (emit_eq ha).trans (denote_eq ha).symm

/-- `startBad` is left out because it may fail -/
def Event.noSpec : Event ν → Bool
  | .start .spectrum _ _ => false
  | .stop .spectrum => false
  | .startBad _ => false
  | _ => true

theorem step_dead (cfg : Config) (s : PState ν) (ev : Event ν) (hs : s.state = none) (h : ev.noSpec = true) :
    ∃ s1, step cfg s ev = .ok (s1, none) ∧ s1.state = none ∧ s1.spectrum = s.spectrum := by
  obtain ⟨st, c, d, k, sp, pr, lo, hi, nz⟩ := s
  cases hs
  cases ev with
  | start t id ref =>
    cases t with
    | spectrum => cases h
    | precursor => cases ref <;> exact ⟨_, rfl, rfl, rfl⟩
    | _ => exact ⟨_, rfl, rfl, rfl⟩
  | startBad t => cases h
  | stop t => cases t <;> first | exact ⟨_, rfl, rfl, rfl⟩ | cases h
  | _ => exact ⟨_, rfl, rfl, rfl⟩

theorem run_dead (cfg : Config) (evs : List (Event ν)) (s : PState ν) (hs : s.state = none)
    (hev : evs.all Event.noSpec = true) :
    ∃ s', run cfg s evs = .ok (s', []) ∧ s'.state = none ∧ s'.spectrum = s.spectrum := by
  induction evs generalizing s with
  | nil => exact ⟨s, rfl, hs, rfl⟩
  | cons ev evs ih =>
    obtain ⟨h1, h2⟩ := Bool.and_eq_true_iff.mp (List.all_cons ▸ hev)
    obtain ⟨s1, e1, hs1, hsp1⟩ := step_dead cfg s ev hs h1
    obtain ⟨s2, e2, hs2, hsp2⟩ := ih s1 hs1 h2
    exact ⟨s2, run_cons_silent e1 e2, hs2, hsp2.trans hsp1⟩

theorem cvSpectrum_rejected (cfg : Config) (s : PState ν) (v : Val ν) (h : v.okU8 = true)
    (hr : allows cfg v.natD = false) :
    cvSpectrum cfg s .msLevel v =
      .ok { s with spectrum := { (Spectrum.blank : Spectrum ν) with level := v.natD }, state := none } := by
  unfold allows at hr
  simp only [cvSpectrum, Val.u8_of_ok h]
  cases hf : cfg.filter with
  | none => rw [hf] at hr; cases hr
  | some f => rw [hf] at hr; simp [bne, hr]

/-- the first rejected `ms level` param takes the reader out of the element; what follows up to `</spectrum>`
(`rest`) is stepped over -/
theorem params_drop (cfg : Config) (ps : List (Param ν)) (rest : List (Event ν)) (s : PState ν)
    (hs : s.state = some .spectrum) (hok : ∀ p ∈ ps, p.okSpectrum = true)
    (hrej : ∀ p ∈ ps, p.c = .msLevel → allows cfg p.v.natD = false)
    (hex : ps.any (fun p => p.c == .msLevel) = true) (hrest : rest.all Event.noSpec = true) :
    ∃ s', run cfg s (ps.map Param.ev ++ rest) = .ok (s', []) ∧ allows cfg s'.spectrum.level = false := by
  induction ps generalizing s with
  | nil => cases hex
  | cons p ps ih =>
    obtain ⟨hokp, hoks⟩ := List.forall_mem_cons.mp hok
    obtain ⟨hrp, hrs⟩ := List.forall_mem_cons.mp hrej
    by_cases hc : p.c = .msLevel
    · obtain ⟨c, v, u⟩ := p
      cases hc
      obtain ⟨s', hr, _, hsp⟩ := run_dead cfg (ps.map Param.ev ++ rest)
        { s with spectrum := { (Spectrum.blank : Spectrum ν) with level := v.natD }, state := none } rfl
        (by rw [List.all_append, List.all_map, hrest, Bool.and_true]; exact List.all_eq_true.mpr fun _ _ => rfl)
      refine ⟨s', run_cons_silent ?_ hr, by rw [hsp]; exact hrp rfl⟩
      simp only [Param.ev, step, onCv, hs, cvSpectrum_rejected cfg s v hokp (hrp rfl)]
    · rw [List.any_cons, beq_false_of_ne hc, Bool.false_or] at hex
      obtain ⟨s', hr, h2⟩ := ih (specUpd s [p]) hs hoks hrs hex
      exact ⟨s', run_cons_silent
        (by rw [Param.ev, step, cvSpectrum_ok cfg s p hs ⟨hokp, fun h => absurd h hc⟩]) hr, h2⟩

theorem sections_noSpec (e : SpecEl ν) :
    (e.scans.flatMap scanEvents ++ (e.precs.flatMap PrecEl.events ++ e.arrays.flatMap ArrEl.events)).all
      Event.noSpec = true := by
  simp [List.all_flatMap, scanEvents, PrecEl.events, ArrEl.events, ionEvents, List.all_map, Function.comp_def,
    Param.ev, Event.noSpec]

theorem natOf_msLevel_of_mem (ps : List (Param ν)) (h : (ps.filter (fun p => p.c == .msLevel)).length ≤ 1)
    (p : Param ν) (hp : p ∈ ps) (hc : p.c = .msLevel) : natOf .msLevel ps = some p.v.natD := by
  induction ps with
  | nil => cases hp
  | cons q qs ih =>
    rw [natOf, lastOf_cons]
    by_cases hq : q.c = .msLevel
    · rw [List.filter_cons_of_pos (by rw [hq]; rfl)] at h
      -- no `ms level` param follows `q`, so `p` is `q`
      have hnil := List.eq_nil_of_length_eq_zero (Nat.le_zero.mp (Nat.le_of_succ_le_succ h))
      have hno : ∀ r ∈ qs, isCv .msLevel r.c = false := fun r hr =>
        Bool.eq_false_iff.mpr (List.filter_eq_nil_iff.mp hnil r hr)
      rw [(lastOf_eq_none_iff _ qs).mpr hno]
      rcases List.mem_cons.mp hp with rfl | hp'
      · rw [isCv, hc]; rfl
      · exact absurd (hno p hp') (by rw [isCv, hc]; decide)
    · rw [List.filter_cons_of_neg (by rw [beq_iff_eq]; exact hq)] at h
      have := ih h ((List.mem_cons.mp hp).resolve_left (fun e => hq (e ▸ hc)))
      unfold natOf at this
      rw [Option.map_or, this]
      rfl

/-- well-formed spectrum element over the supported vocabulary: schema child order (by the type
`SpecEl`), every value the reader reads parses, every array re-declares compression / data type /
kind and its payload decodes, at most one `ms level` param — possibly none — (`SpecEl.wf`). A `total
ion current` of 0 is not excluded (`tic_zero_read_as_encoded`). -/
def WellFormed (e : SpecEl ν) : Prop :=
  e.wf = true

/-- one well-formed element, from any state the reader can be in between spectra -/
theorem elem_faithful (cfg : Config) (e : SpecEl ν) (c d : Bool) (k : Option Kind) (h : WellFormed e) :
    ∃ c' d' k', run cfg (PState.fresh c d k) e.events = .ok (PState.fresh c' d' k', (denote cfg e).toList) := by
  have hwf : e.wf = true := h
  simp only [SpecEl.wf, Bool.and_eq_true, List.all_eq_true, decide_eq_true_eq] at hwf
  obtain ⟨⟨⟨⟨hps, hcount⟩, _⟩, _⟩, _⟩ := hwf
  have hlv (p : Param ν) (hp : p ∈ e.params) (hc : p.c = .msLevel) :
      allows cfg p.v.natD = allows cfg (levelOf e) := by
    rw [levelOf, natOf_msLevel_of_mem e.params hcount p hp hc]; rfl
  cases ha : allows cfg (levelOf e) with
  | true => exact elem_read cfg e c d k h (fun p hp hc => (hlv p hp hc).trans ha)
  | false =>
    cases hex : e.params.any (fun p => p.c == .msLevel) with
    | false =>
      exact elem_read cfg e c d k h (fun p hp hc => absurd (beq_iff_eq.mpr hc) (List.any_eq_false.mp hex p hp))
    | true =>
      -- the reader leaves the element at the `ms level` param, skips the rest and emits nothing
      obtain ⟨s1, hr1, hl1⟩ := params_drop cfg e.params _ (PState.opened e.id c d k) rfl hps
        (fun p hp hc => (hlv p hp hc).trans ha) hex (sections_noSpec e)
      refine ⟨s1.compression, s1.dtype64, s1.kind, run_cons_silent rfl ?_⟩
      rw [← List.append_assoc (e.precs.flatMap _), ← List.append_assoc (e.scans.flatMap _), ← List.append_assoc,
        denote_eq ha]
      exact run_append_ok hr1 (run_stop_spectrum (emit_eq hl1))

theorem doc_faithful (cfg : Config) (els : List (SpecEl ν)) (c d : Bool) (k : Option Kind)
    (h : ∀ e ∈ els, WellFormed e) :
    ∃ c' d' k', run cfg (PState.fresh c d k) (els.flatMap SpecEl.events) =
      .ok (PState.fresh c' d' k', denoteDoc cfg els) := by
  induction els generalizing c d k with
  | nil => exact ⟨c, d, k, rfl⟩
  | cons e rest ih =>
    obtain ⟨he, hrest⟩ := List.forall_mem_cons.mp h
    obtain ⟨c1, d1, k1, h1⟩ := elem_faithful cfg e c d k he
    obtain ⟨c2, d2, k2, h2⟩ := ih c1 d1 k1 hrest
    refine ⟨c2, d2, k2, (run_append_ok h1 h2).trans ?_⟩
    cases hd : denote cfg e <;> simp only [denoteDoc, List.filterMap_cons, hd] <;> rfl

theorem chunksF_count (n : Nat) (hn : 0 < n) (fuel : Nat) (b : List UInt8) (h : b.length ≤ fuel) :
    ((chunksF n fuel b).filter (fun c => c.length == n)).length = b.length / n := by
  induction fuel generalizing b with
  | zero => rw [List.length_eq_zero_iff.mp (Nat.le_zero.mp h)]; exact (Nat.zero_div n).symm
  | succ fuel ih =>
    cases b with
    | nil => exact (Nat.zero_div n).symm
    | cons x xs =>
      have ih' := ih ((x :: xs).drop n) (by
        rw [List.length_drop]; exact Nat.le_of_lt_succ (Nat.lt_of_lt_of_le (Nat.sub_lt (Nat.succ_pos _) hn) h))
      rw [List.length_drop] at ih'
      rw [show chunksF n (fuel + 1) (x :: xs) = _ :: _ from rfl, List.filter_cons, List.length_take]
      -- a full chunk in front counts, a short one is the whole (ragged) rest
      by_cases hge : n ≤ (x :: xs).length
      · rw [if_pos (by rw [Nat.min_eq_left hge]; exact beq_self_eq_true n), List.length_cons, ih',
          Nat.div_eq_sub_div hn hge]
      · have hlt := Nat.lt_of_not_le hge
        rw [if_neg (by rw [Nat.min_eq_right (Nat.le_of_lt hlt)]; exact fun h => Nat.ne_of_lt hlt (beq_iff_eq.mp h)),
          ih', Nat.div_eq_of_lt hlt, Nat.sub_eq_zero_of_le (Nat.le_of_lt hlt), Nat.zero_div]

theorem chunksF_fuel (n : Nat) (hn : 0 < n) (f1 f2 : Nat) (b : List UInt8) (h1 : b.length ≤ f1)
    (h2 : b.length ≤ f2) : chunksF n f1 b = chunksF n f2 b := by
  induction f1 generalizing f2 b with
  | zero =>
    cases List.length_eq_zero_iff.mp (Nat.le_zero.mp h1)
    cases f2 <;> rfl
  | succ f1 ih =>
    cases b with
    | nil => cases f2 <;> rfl
    | cons x xs =>
      cases f2 with
      | zero => cases h2
      | succ f2 =>
        have hl : ((x :: xs).drop n).length ≤ xs.length := by
          rw [List.length_drop]; exact Nat.le_of_lt_succ (Nat.sub_lt (Nat.succ_pos _) hn)
        exact congrArg ((x :: xs).take n :: ·) (ih f2 _ (Nat.le_trans hl (Nat.le_of_succ_le_succ h1))
          (Nat.le_trans hl (Nat.le_of_succ_le_succ h2)))

theorem chunks_append (n : Nat) (hn : 0 < n) (w rest : List UInt8) (hw : w.length = n) :
    chunks n (w ++ rest) = w :: chunks n rest := by
  cases w with
  | nil => exact absurd hw (Nat.ne_of_lt hn)
  | cons x xs =>
    rw [show chunks n (x :: xs ++ rest) = _ :: _ from rfl, List.take_left' hw, List.drop_left' hw]
    -- the tail runs on `rest` with the fuel `(xs ++ rest).length`
    exact congrArg _ (chunksF_fuel n hn _ _ rest (by simp) (Nat.le_refl _))

/-- **C16.decode_total** — the array decoder is total and yields exactly `⌊len/4⌋` (32-bit) resp.
`⌊len/8⌋` (64-bit) values for a payload of `len` bytes, whatever the bytes: a ragged tail is
dropped, never read out of bounds (the repaired 64-bit panic). -/
theorem decode_total (b : List UInt8) :
    (decode32 (ν := ν) b).length = b.length / 4 ∧ (decode64 (ν := ν) b).length = b.length / 8 :=
  ⟨(List.length_map _).trans (chunksF_count 4 (by decide) _ b (Nat.le_refl _)),
    (List.length_map _).trans (chunksF_count 8 (by decide) _ b (Nat.le_refl _))⟩

/-- **C16.decode_values** — the decoder reads the payload word by word: a full 4-byte (8-byte)
word in front contributes exactly its little-endian value, and what is left when fewer than a
word remains contributes nothing. Together with `decode_total` this determines every value. -/
theorem decode_values (w rest : List UInt8) :
    (w.length = 4 → decode32 (ν := ν) (w ++ rest) = ofLE32 w :: decode32 rest) ∧
    (w.length = 8 → decode64 (ν := ν) (w ++ rest) = ofLE64 w :: decode64 rest) ∧
    (w.length < 4 → decode32 (ν := ν) w = []) ∧ (w.length < 8 → decode64 (ν := ν) w = []) := by
  refine ⟨fun h => ?_, fun h => ?_, fun h => ?_, fun h => ?_⟩
  · simp [decode32, chunks_append 4 (by decide) w rest h, h]
  · simp [decode64, chunks_append 8 (by decide) w rest h, h]
  · exact List.eq_nil_of_length_eq_zero ((decode_total w).1.trans (Nat.div_eq_of_lt h))
  · exact List.eq_nil_of_length_eq_zero ((decode_total w).2.trans (Nat.div_eq_of_lt h))

instance : Num Int where
  zero := 0
  ofNat n := n
  isZero x := x == 0
  div a b := a / b
  neg a := -a
  sixty := 60
  ofLE32 b := (b.foldr (fun x acc => acc * 256 + x.toNat) 0 : Nat)
  ofLE64 b := (b.foldr (fun x acc => acc * 256 + x.toNat) 0 : Nat)

/-- non-vacuity of `decode_values`: a full word in front of a ragged rest -/
example : decode32 (ν := Int) ([1, 0, 0, 0] ++ [2, 0, 0, 0, 9]) = ofLE32 [1, 0, 0, 0] :: decode32 [2, 0, 0, 0, 9] :=
  (decode_values _ _).1 rfl

/-- non-vacuity: a 10-byte payload (the input that used to panic) decodes to 2 resp. 1 values -/
example : decode32 (ν := Int) [1, 0, 0, 0, 2, 0, 0, 0, 9, 9] = [1, 2] ∧
    decode64 (ν := Int) [1, 0, 0, 0, 0, 0, 0, 0, 9, 9] = [1] := by decide +kernel

/-- **C16.end_spectrum_resets** — whatever the parser state, after `</spectrum>` every loop-carried
local is back to its initial value, except the three array-declaration flags (`compression`,
`binary_dtype`, `binary_array`), which every well-formed `<binaryDataArray>` re-declares. -/
theorem end_spectrum_resets (cfg : Config) (s : PState ν) :
    (onEnd cfg s .spectrum).1 = PState.fresh s.compression s.dtype64 s.kind := by
  rw [onEnd_spectrum]

/-- non-vacuity: a state full of leftovers is wiped -/
example : (onEnd {} (⟨some .precursor, true, false, some .mz,
      ⟨"x", 2, true, 5, 6, 7, [], [1], [2]⟩, ⟨500, some 1, some 2, some "r", none, some 3⟩,
      some 1, some 2, [4, 5]⟩ : PState Int) .spectrum).1 = PState.fresh true false (some .mz) := by decide +kernel

/-- **C16.locality_state** — what the parser does with the events `e` that follow a `</spectrum>`
depends on everything before it (`pre`, arbitrary events, well-formed or not) only through the three
array-declaration flags: the spectra already emitted stay as they are, and the rest of the run is the
run of `e` from the fresh state carrying those flags. -/
theorem locality_state (cfg : Config) (pre e : List (Event ν)) (s : PState ν) (out : List (Spectrum ν))
    (h : run cfg PState.init (pre ++ [.stop .spectrum]) = .ok (s, out)) :
    s = PState.fresh s.compression s.dtype64 s.kind ∧
    run cfg PState.init (pre ++ [.stop .spectrum] ++ e) =
      match run cfg (PState.fresh s.compression s.dtype64 s.kind) e with
      | .error x => .error x
      | .ok (s', o) => .ok (s', out ++ o) := by
  have hs : s = PState.fresh s.compression s.dtype64 s.kind := by
    cases h1 : run cfg PState.init pre with
    | error x => rw [run_append, h1] at h; cases h
    | ok r =>
      cases (run_append_ok h1 (run_stop_spectrum rfl)).symm.trans h
      rfl
  refine ⟨hs, ?_⟩
  rw [run_append, h, ← hs]

/-- non-vacuity: the hypothesis is met by a document whose first spectrum leaves a zlib/32-bit declaration behind -/
example : (run (ν := Int) {} PState.init
    ([.start .spectrum (some "a") none, .start .binaryDataArray none none, .cv .zlib .absent .absent,
      .cv .f32 .absent .absent, .stop .binaryDataArray] ++ [.stop .spectrum])).toOption.map
      (fun r => (r.1.compression, r.2.length)) = some (true, 1) := by decide +kernel

/-- **C16.run_strip** — elements the reader does not know (`scanList`, `isolationWindow`, `mzML`, …)
and empty elements other than cvParam (`userParam`, …) never change the outcome, wherever they
occur: a document may be compared with its skeleton `strip doc`. -/
theorem run_strip (cfg : Config) (s : PState ν) (evs : List (Event ν)) :
    run cfg s evs = run cfg s (strip evs) :=
  run_filter cfg (fun e => !e.inert) (fun s e h => step_inert cfg s e (by simpa using h)) s evs

/-- non-vacuity: wrappers and userParams around a real element -/
example : strip (ν := Int) [.start (.other 0) none none, .start .scan none none, .empty (.other 3),
    .cv .scanStart (.nat 90) .seconds, .stop .scan, .stop (.other 0)] =
    [.start .scan none none, .cv .scanStart (.nat 90) .seconds, .stop .scan] := by decide +kernel

def Event.isLengthAttr : Event ν → Bool
  | .lengthAttr _ => true
  | _ => false

/-- **C16.length_attrs_ignored** — the `defaultArrayLength`, `arrayLength` and `encodedLength`
attributes play no part: whatever text they carry (correct, 0, off by some, 18446744073709551615,
negative, not a number) and wherever they occur, the outcome is the one for the document without
them. In particular no buffer is sized from them, so a hostile value cannot make the reader fail. -/
theorem length_attrs_ignored (cfg : Config) (s : PState ν) (evs : List (Event ν)) :
    run cfg s evs = run cfg s (evs.filter (fun e => !e.isLengthAttr)) :=
  run_filter cfg _ (fun s e h => by cases e <;> first | rfl | cases h) s evs

/-- non-vacuity: a hostile `defaultArrayLength` in front of a spectrum with a one-value m/z array -/
example : (parse (ν := Int) {} [.lengthAttr "18446744073709551615", .start .spectrum (some "a") none,
      .lengthAttr "-1", .start .binaryDataArray none none, .cv .mzArray .absent .absent, .cv .f32 .absent .absent,
      .cv .noCompression .absent .absent, .start .binary none none, .text (.data [7, 0, 0, 0] none), .stop .binary,
      .stop .binaryDataArray, .stop .spectrum]).toOption =
    some [⟨"a", 0, false, 0, 0, 0, [], [7], []⟩] := by decide +kernel

/-- the model's reading of base64 (what base64 0.13 `decode` does; every line was observed on the
crate and is re-checked against it by the correspondence run): padding optional or partial, stray
bits / bad lengths / `=` in the wrong place / white space / foreign characters rejected -/
example :
    b64decode [81, 85, 74, 68] = some [65, 66, 67] ∧  -- 'QUJD'
    b64decode [81, 85, 73, 61] = some [65, 66] ∧  -- 'QUI='
    b64decode [81, 85, 73] = some [65, 66] ∧  -- 'QUI'
    b64decode [81, 81, 61, 61] = some [65] ∧  -- 'QQ=='
    b64decode [81, 81, 61] = some [65] ∧  -- 'QQ='
    b64decode [81, 81] = some [65] ∧  -- 'QQ'
    b64decode [81, 85, 74, 68, 82, 65] = some [65, 66, 67, 68] ∧  -- 'QUJDRA'
    b64decode [81, 85, 74, 68, 82, 85, 89] = some [65, 66, 67, 69, 70] ∧  -- 'QUJDRUY'
    b64decode [] = some [] ∧  -- ''
    b64decode [81] = none ∧  -- 'Q'
    b64decode [81, 85, 74, 68, 82] = none ∧  -- 'QUJDR'
    b64decode [81, 85, 74] = none ∧  -- 'QUJ'
    b64decode [81, 82, 61, 61] = none ∧  -- 'QR=='
    b64decode [61] = none ∧  -- '='
    b64decode [61, 61] = none ∧  -- '=='
    b64decode [81, 85, 74, 68, 61] = none ∧  -- 'QUJD='
    b64decode [81, 85, 74, 68, 61, 61] = none ∧  -- 'QUJD=='
    b64decode [81, 61, 61, 61] = none ∧  -- 'Q==='
    b64decode [81, 85, 61, 68] = none ∧  -- 'QU=D'
    b64decode [32, 81, 85, 74, 68] = none ∧  -- ' QUJD'
    b64decode [81, 85, 32, 74, 68] = none ∧  -- 'QU JD'
    b64decode [81, 85, 74, 68, 10] = none ∧  -- 'QUJD\n'
    b64decode [81, 85, 74, 42] = none :=  -- 'QUJ*'
  by decide +kernel

/-- **C16.unpadded_payload_decodes** — a payload that lost its `=` padding is still a payload: the
unpadded text of the 4 bytes `01 00 00 00` (`AQAAAA==`, `AQAAAA=`, `AQAAAA`) decodes to the same
value as the padded one (an array carrying it that does not declare zlib is well-formed, so `faithful`
applies), a text cut one character further (`AQAAA`) is an error value, one cut by two (`AQAA`) is a
3-byte payload with no complete word — never a crash. -/
theorem unpadded_payload_decodes :
    let inflate : List UInt8 → Option (List UInt8) := fun _ => none
    Payload.ofText [65, 81, 65, 65, 65, 65, 61, 61] inflate = .data [1, 0, 0, 0] none ∧
    Payload.ofText [65, 81, 65, 65, 65, 65, 61] inflate = .data [1, 0, 0, 0] none ∧
    Payload.ofText [65, 81, 65, 65, 65, 65] inflate = .data [1, 0, 0, 0] none ∧
    Payload.ofText [65, 81, 65, 65, 65] inflate = .badB64 ∧
    Payload.ofText [65, 81, 65, 65] inflate = .data [1, 0, 0] none ∧
    decode32 (ν := Int) [1, 0, 0] = [] ∧
    Payload.ofText [] inflate = .empty := by decide +kernel

def Event.mayRaise : Event ν → List Err
  | .start .spectrum none _ => [.malformed]           -- `<spectrum>` without `id`
  | .start _ _ _ => []
  | .startBad .spectrum => [.xml]                      -- malformed entity in `id`
  | .startBad .precursor => [.xml]                     -- malformed entity in `spectrumRef`
  | .startBad _ => []
  | .cv _ _ _ => [.malformed, .float, .int]            -- missing accession / value / unit; unparsable number
  | .text _ => [.base64, .io]                          -- not base64; not a zlib stream
  | .stop _ => []
  | .empty _ => []
  | .lengthAttr _ => []

theorem Val.float_error {v : Val ν} {x : Err} (h : v.float = .error x) : x ∈ [Err.malformed, .float, .int] := by
  cases v <;> cases h <;> decide

theorem Val.u8_error {v : Val ν} {x : Err} (h : v.u8 = .error x) : x ∈ [Err.malformed, .float, .int] := by
  cases v with
  | nat n => simp only [Val.u8] at h; split at h <;> cases h; decide
  | _ => cases h <;> decide

/-- the shape in which the cvParam handlers read a float -/
theorem error_of_match_ok {α β : Type} {r : Except Err α} {k : α → β} {x : Err}
    (h : (match r with | .error e => Except.error e | .ok a => Except.ok (k a)) = Except.error x) :
    r = .error x := by
  cases r with
  | error e => exact congrArg _ (Except.error.inj h)
  | ok a => cases h

theorem onCv_error {cfg : Config} {s : PState ν} {c : Cv} {v : Val ν} {u : TimeUnit} {x : Err}
    (h : onCv cfg s c v u = .error x) : x ∈ [Err.malformed, .float, .int] := by
  unfold onCv at h
  split at h
  · unfold cvBda at h
    split at h <;> cases h
    decide
  · unfold cvSpectrum at h
    split at h
    · cases h; decide
    · split at h
      · next he => cases h; exact Val.u8_error he
      · cases h
    · cases h
    · cases h
    · exact Val.float_error (error_of_match_ok h)
    · cases h
  · unfold cvPrecursor at h
    split at h
    · cases h; decide
    · exact Val.float_error (error_of_match_ok h)
    · exact Val.float_error (error_of_match_ok h)
    · cases h
  · unfold cvSelectedIon at h
    split at h
    · cases h; decide
    · split at h
      · next he => cases h; exact Val.u8_error he
      · cases h
    · exact Val.float_error (error_of_match_ok h)
    · exact Val.float_error (error_of_match_ok h)
    · exact Val.float_error (error_of_match_ok h)
    · cases h
  · unfold cvScan at h
    split at h
    · cases h; decide
    · split at h
      · next he => cases h; exact Val.float_error he
      · split at h <;> cases h
        decide
    · exact Val.float_error (error_of_match_ok h)
    · exact Val.float_error (error_of_match_ok h)
    · cases h
  · cases h

theorem readPayload_error {s : PState ν} {p : Payload} {x : Err} (h : readPayload s p = .error x) :
    x ∈ [Err.base64, .io] := by
  unfold readPayload at h
  split at h
  · cases h
  · split at h <;> cases h
    decide
  · split at h
    · cases h
    split at h
    · cases h
    split at h
    · split at h <;> cases h
      decide
    · cases h

theorem onStart_error {s : PState ν} {t : Tag} {id ref : Option String} {x : Err}
    (h : onStart s t id ref = .error x) : t = .spectrum ∧ id = none ∧ x = .malformed := by
  unfold onStart at h
  split at h
  · split at h <;> cases h
    exact ⟨rfl, rfl, rfl⟩
  · split at h <;> cases h
  · cases h

theorem step_errors (cfg : Config) (s : PState ν) (ev : Event ν) (e : Err) (h : step cfg s ev = .error e) :
    e ∈ ev.mayRaise := by
  unfold step at h
  split at h
  · split at h
    · next he => obtain ⟨rfl, rfl, rfl⟩ := onStart_error he; cases h; exact List.mem_singleton_self _
    · cases h
  · split at h
    · cases h; exact List.mem_singleton_self _
    · cases h; exact List.mem_singleton_self _
    · split at h
      · next he => obtain ⟨rfl, _⟩ := onStart_error he; contradiction
      · cases h
  · split at h
    · next he => cases h; exact onCv_error he
    · cases h
  · split at h
    · next he =>
      cases h
      rw [onText_eq] at he
      split at he
      · exact readPayload_error he
      · cases he
    · cases h
  · cases h
  · cases h
  · cases h

theorem run_error_source (cfg : Config) (s : PState ν) (evs : List (Event ν)) (e : Err)
    (h : run cfg s evs = .error e) : ∃ ev ∈ evs, e ∈ ev.mayRaise := by
  induction evs generalizing s with
  | nil => cases h
  | cons ev rest ih =>
    rw [run] at h
    split at h
    · next x hs => cases h; exact ⟨ev, List.mem_cons_self .., step_errors cfg s ev _ hs⟩
    · next s1 o hs =>
      split at h
      · next x hr =>
        cases h
        obtain ⟨ev', hm, he⟩ := ih s1 hr
        exact ⟨ev', List.mem_cons_of_mem _ hm, he⟩
      · cases h

/-- **C16.parse_total** — for EVERY event list (any events, any order, any nesting) `parse` returns
either a list of spectra or one of six error values (`malformed`, `float`, `int`, `base64`, `io`,
`xml`), and an error is always attributable to one event of the document that can raise exactly that
class (`Event.mayRaise`). The model has no partial operation (no indexing, no unwrap, no unbounded
loop); that the Rust function has no other outcome either — no panic, no hang — is what the
differential run observes. -/
theorem parse_total (cfg : Config) (doc : List (Event ν)) :
    (∃ sps, parse cfg doc = .ok sps) ∨
    (∃ e, parse cfg doc = .error e ∧ ∃ ev ∈ doc, e ∈ ev.mayRaise) := by
  unfold parse
  cases h : run cfg PState.init doc with
  | ok r => exact Or.inl ⟨r.2, rfl⟩
  | error e => exact Or.inr ⟨e, rfl, run_error_source cfg _ doc e h⟩

/-- non-vacuity: both outcomes occur; the error is the unit-less scan start time's `malformed` -/
example : (parse (ν := Int) {} [.start .spectrum (some "a") none, .stop .spectrum]).toOption.map List.length = some 1 ∧
    (match parse (ν := Int) {} [.start .spectrum (some "a") none, .start .scan none none,
        .cv .scanStart (.nat 5) .absent] with | .error .malformed => true | _ => false) = true := by decide +kernel

/-- **C16.faithful** — a document made of well-formed spectrum elements parses to exactly one
spectrum per element that passes the MS-level filter, in document order, and each is `denote e`:
the element's own id, MS level, centroid/profile flag, TIC, start time (seconds ÷ 60, minutes as
is), injection time, the decoded m/z and intensity arrays (the last declared array of each kind;
intensities divided by the element's own noise array when S/N is requested for its level), and
one precursor per `<precursor>` with a non-zero selected-ion m/z carrying its own m/z, intensity,
charge, spectrumRef, isolation window `Da(-lower, upper)` and ion mobility (its own, else — for the
first precursor only — the one announced in the element's `<scan>`). Never an error. -/
theorem faithful (cfg : Config) (els : List (SpecEl ν)) (h : ∀ e ∈ els, WellFormed e) :
    parse cfg (els.flatMap SpecEl.events) = .ok (denoteDoc cfg els) := by
  obtain ⟨c, d, k, hr⟩ := doc_faithful cfg els false true none h
  simp only [parse, PState.init, hr]

/-- **C16.faithful_splice** — document-level locality of well-formed documents: the spectra of a concatenated
document are the concatenation of the spectra of its parts, and inserting (or, read right to left, removing) one
well-formed element `e` anywhere adds (removes) exactly `denote cfg e` at that position and changes no other spectrum. -/
theorem faithful_splice (cfg : Config) (a b : List (SpecEl ν)) (e : SpecEl ν)
    (ha : ∀ x ∈ a, WellFormed x) (hb : ∀ x ∈ b, WellFormed x) (he : WellFormed e) :
    parse cfg ((a ++ b).flatMap SpecEl.events) = .ok (denoteDoc cfg a ++ denoteDoc cfg b) ∧
    parse cfg ((a ++ e :: b).flatMap SpecEl.events) =
      .ok (denoteDoc cfg a ++ (denote cfg e).toList ++ denoteDoc cfg b) := by
  have key (b' : List (SpecEl ν)) (hb' : ∀ x ∈ b', WellFormed x) :
      parse cfg ((a ++ b').flatMap SpecEl.events) = .ok (denoteDoc cfg a ++ denoteDoc cfg b') := by
    rw [faithful cfg (a ++ b') (fun x hx => (List.mem_append.mp hx).elim (ha x) (hb' x)), denoteDoc,
      List.filterMap_append]
    rfl
  refine ⟨key b hb, (key (e :: b) (List.forall_mem_cons.mpr ⟨he, hb⟩)).trans ?_⟩
  cases hd : denote cfg e <;> simp [denoteDoc, hd]

/-- **C16.locality** — after ANY event prefix `pre` (well-formed or not, as long as the reader got
through it) that ends a spectrum, the spectrum emitted for a well-formed element `e` is `denote e`,
which is a function of `e` and the configuration alone: nothing read before `e` reaches it. -/
theorem locality (cfg : Config) (pre : List (Event ν)) (e : SpecEl ν) (s : PState ν) (out : List (Spectrum ν))
    (hpre : run cfg PState.init (pre ++ [.stop .spectrum]) = .ok (s, out)) (hwf : WellFormed e) :
    ∃ s', run cfg PState.init (pre ++ [.stop .spectrum] ++ e.events) = .ok (s', out ++ (denote cfg e).toList) ∧
      parse cfg e.events = .ok (denote cfg e).toList := by
  obtain ⟨_, hrun⟩ := locality_state cfg pre e.events s out hpre
  obtain ⟨c', d', k', h1⟩ := elem_faithful cfg e s.compression s.dtype64 s.kind hwf
  obtain ⟨c2, d2, k2, h2⟩ := elem_faithful cfg e false true none hwf
  refine ⟨PState.fresh c' d' k', ?_, ?_⟩
  · rw [hrun, h1]
  · simp only [parse, PState.init, h2]

/-- a rich MS2 element (scan with mobility, isolation window, 32-bit zlib-declared m/z array) … -/
def exRich : SpecEl Int :=
  { id := "scan=1"
    params := [⟨.centroid, .absent, .absent⟩, ⟨.msLevel, .nat 2, .absent⟩, ⟨.tic, .nat 793, .absent⟩]
    scans := [[⟨.scanStart, .nat 120, .seconds⟩, ⟨.invMobility, .nat 7, .absent⟩]]
    precs := [{ ref := some "scan=0", iso := [⟨.isoLower, .nat 3, .absent⟩, ⟨.isoUpper, .nat 1, .absent⟩],
                ions := [[⟨.selMz, .nat 457, .absent⟩, ⟨.selCharge, .nat 2, .absent⟩]], act := [⟨.other, .absent, .absent⟩] }]
    arrays := [{ params := [⟨.mzArray, .absent, .absent⟩, ⟨.f32, .absent, .absent⟩, ⟨.zlib, .absent, .absent⟩],
                 payload := .data [9, 9, 9] (some [1, 0, 0, 0, 2, 0, 0, 0]) },
               { params := [⟨.intensityArray, .absent, .absent⟩, ⟨.f64, .absent, .absent⟩, ⟨.noCompression, .absent, .absent⟩],
                 payload := .data [5, 0, 0, 0, 0, 0, 0, 0, 6, 0, 0, 0, 0, 0, 0, 0, 1] none }] }

/-- … followed by a bare one with a precursor that declares nothing but its m/z -/
def exBare : SpecEl Int :=
  { id := "scan=2", params := [⟨.msLevel, .nat 2, .absent⟩], scans := [],
    precs := [{ ref := none, iso := [], ions := [[⟨.selMz, .nat 500, .absent⟩]], act := [] }], arrays := [] }

theorem exRich_wf : WellFormed exRich := (by decide +kernel : exRich.wf = true)
theorem exBare_wf : WellFormed exBare := (by decide +kernel : exBare.wf = true)

/-- non-vacuity of `faithful` / `locality`: the hypotheses hold for a rich element followed by a
bare one, and the bare one's spectrum shows none of the rich one's fields -/
example : denoteDoc (ν := Int) {} [exRich, exBare] =
    [⟨"scan=1", 2, true, 793, 2, 0, [⟨457, none, some 2, some "scan=0", some (-3, 1), some 7⟩], [1, 2], [5, 6]⟩,
     ⟨"scan=2", 2, false, 0, 0, 0, [⟨500, none, none, none, none, none⟩], [], []⟩] := by decide +kernel

example : parse (ν := Int) {} ([exRich, exBare].flatMap SpecEl.events) = .ok (denoteDoc {} [exRich, exBare]) :=
  faithful {} _ (by simp [exRich_wf, exBare_wf])

/-- a filter on level 1 removes both (MS2) elements -/
example : denoteDoc (ν := Int) { filter := some 1 } [exRich, exBare] = [] := by decide +kernel

theorem denote_filter (cfg : Config) (l : Nat) (e : SpecEl ν) :
    denote { cfg with filter := some l } e =
      if levelOf e == l then denote { cfg with filter := none } e else none := by
  cases h : levelOf e == l with
  | true =>
    exact (denote_eq (cfg := { cfg with filter := some l }) h).trans
      (denote_eq (cfg := { cfg with filter := none }) (b := true) rfl).symm
  | false => exact denote_eq (cfg := { cfg with filter := some l }) h

/-- **C16.level_filter** — with the MS-level filter set to `l`, a well-formed document parses to
exactly the readings (taken WITHOUT a filter) of the elements whose declared level is `l`, in
document order: the filter removes whole spectra and changes nothing else. -/
theorem level_filter (cfg : Config) (l : Nat) (els : List (SpecEl ν)) (h : ∀ e ∈ els, WellFormed e) :
    parse { cfg with filter := some l } (els.flatMap SpecEl.events) =
      .ok (denoteDoc { cfg with filter := none } (els.filter (fun e => levelOf e == l))) := by
  rw [faithful _ els h, denoteDoc, denoteDoc, List.filterMap_filter]
  exact congrArg (fun f => Except.ok (List.filterMap f els)) (funext (denote_filter cfg l))

/-- non-vacuity: an MS1 element between two MS2 elements; filter 2 keeps the MS2 ones, in order -/
def exMs1 : SpecEl Int :=
  { id := "ms1", params := [⟨.msLevel, .nat 1, .absent⟩], scans := [[⟨.invMobility, .nat 9, .absent⟩]], precs := [],
    arrays := [] }
theorem exMs1_wf : WellFormed exMs1 := (by decide +kernel : exMs1.wf = true)

example : (parse (ν := Int) { filter := some 2 } ([exRich, exMs1, exBare].flatMap SpecEl.events)).toOption.map
    (fun sps => sps.map (·.id)) = some ["scan=1", "scan=2"] := by decide +kernel

theorem zipDiv_length (xs ns : List ν) : (zipDiv xs ns).length = xs.length := by
  induction xs generalizing ns with
  | nil => cases ns <;> rfl
  | cons x xs ih => cases ns <;> simp [zipDiv, ih]

theorem zipDiv_get (xs ns : List ν) (i : Nat) :
    (zipDiv xs ns)[i]? =
      match xs[i]?, ns[i]? with
      | some x, some n => some (div x n)
      | some x, none => some x
      | none, _ => none := by
  induction xs generalizing ns i with
  | nil => cases ns <;> rfl
  | cons x xs ih =>
    cases ns with
    | nil => simp only [zipDiv, List.getElem?_nil]; cases (x :: xs)[i]? <;> rfl
    | cons n ns =>
      cases i with
      | zero => rfl
      | succ i => exact ih ns i

/-- **C16.signal_to_noise** — the intensities of the spectrum read from an element are the element's
own intensity array, divided POINTWISE by the element's own noise array exactly when S/N is requested
for the element's level and that noise array is non-empty: value `i` becomes `intensity[i] / noise[i]`
where the noise array has an `i`-th value and stays `intensity[i]` beyond its end; the length never
changes; in every other case the intensities are returned as encoded. The m/z array is never touched. -/
theorem signal_to_noise (cfg : Config) (e : SpecEl ν) (sp : Spectrum ν) (h : denote cfg e = some sp) :
    sp.mz = arrayOf .mz e.arrays ∧
    sp.intensity.length = (arrayOf .intensity e.arrays).length ∧
    (∀ i : Nat, sp.intensity[i]? =
      if cfg.sn = some (levelOf e) ∧ arrayOf .noise e.arrays ≠ [] then
        match (arrayOf .intensity e.arrays)[i]?, (arrayOf .noise e.arrays)[i]? with
        | some x, some n => some (div x n)
        | some x, none => some x
        | none, _ => none
      else (arrayOf .intensity e.arrays)[i]?) := by
  have hsp : sp = reading cfg e := by
    cases ha : allows cfg (levelOf e) with
    | false => rw [denote_eq ha] at h; cases h
    | true => rw [denote_eq ha] at h; exact (Option.some.inj h).symm
  subst hsp
  refine ⟨rfl, ?_⟩
  have hiff : (cfg.sn == some (levelOf e) && !(arrayOf .noise e.arrays).isEmpty) = true ↔
      cfg.sn = some (levelOf e) ∧ arrayOf .noise e.arrays ≠ [] := by
    simp
  rw [reading, ← levelOf]
  by_cases hc : cfg.sn = some (levelOf e) ∧ arrayOf .noise e.arrays ≠ []
  · rw [if_pos (hiff.mpr hc)]
    exact ⟨zipDiv_length _ _, fun i => by rw [zipDiv_get]; exact (if_pos hc).symm⟩
  · rw [if_neg (mt hiff.mp hc)]
    exact ⟨rfl, fun i => (if_neg hc).symm⟩

/-- non-vacuity: noise `[4, 0]` against intensities `[8, 10, 3]` at the requested level -/
def exNoise : SpecEl Int :=
  { id := "n", params := [⟨.msLevel, .nat 2, .absent⟩], scans := [], precs := [],
    arrays := [{ params := [⟨.intensityArray, .absent, .absent⟩, ⟨.f32, .absent, .absent⟩, ⟨.noCompression, .absent, .absent⟩],
                 payload := .data [8, 0, 0, 0, 10, 0, 0, 0, 3, 0, 0, 0] none },
               { params := [⟨.noiseArray, .absent, .absent⟩, ⟨.f32, .absent, .absent⟩, ⟨.noCompression, .absent, .absent⟩],
                 payload := .data [4, 0, 0, 0, 2, 0, 0, 0] none }] }

example : (denote (ν := Int) { sn := some 2 } exNoise).map (·.intensity) = some [2, 5, 3] ∧
    (denote (ν := Int) { sn := some 3 } exNoise).map (·.intensity) = some [8, 10, 3] := by decide +kernel

/-- non-vacuity for elements WITHOUT an `ms level` param: such an element is
well-formed; it reads as level 0 and only a filter on level 0 (or none) lets it through -/
def exNoLevel : SpecEl Int :=
  { id := "nolevel", params := [⟨.centroid, .absent, .absent⟩], scans := [[⟨.scanStart, .nat 3, .minutes⟩]], precs := [],
    arrays := [{ params := [⟨.mzArray, .absent, .absent⟩, ⟨.f32, .absent, .absent⟩, ⟨.noCompression, .absent, .absent⟩],
                 payload := .data [7, 0, 0, 0] none }] }
theorem exNoLevel_wf : WellFormed exNoLevel := (by decide +kernel : exNoLevel.wf = true)
example : denote (ν := Int) {} exNoLevel = some ⟨"nolevel", 0, true, 0, 3, 0, [], [7], []⟩ ∧
    denote (ν := Int) { filter := some 2 } exNoLevel = none ∧
    (parse (ν := Int) { filter := some 2 } ([exNoLevel, exBare].flatMap SpecEl.events)).toOption.map
      (fun sps => sps.map (·.id)) = some ["scan=2"] := by decide +kernel

/-- **C16.parse_sequence** — parsing a sequence of documents back to back is the map of the
single-document parse: the result for a document is a function of that document (and its
configuration) alone; it does not depend on which documents were parsed before it, nor on whether
they were parsed successfully or failed half-way (inside a zlib stream, a base64 text, an XML
entity, …). State across `parse` CALLS does not exist in the model; op `mzmlseq` checks that the
code has none either (`bad:depends_on_previous_document`). -/
theorem parse_sequence (docs : List (Config × List (Event ν))) :
    parseSeq docs = docs.map (fun d => parse d.1 d.2) ∧
    ∀ (pre post : List (Config × List (Event ν))) (d : Config × List (Event ν)),
      (parseSeq (pre ++ d :: post))[pre.length]? = some (parse d.1 d.2) := by
  have hmap : ∀ ds : List (Config × List (Event ν)), parseSeq ds = ds.map (fun d => parse d.1 d.2) := by
    intro ds
    induction ds with
    | nil => rfl
    | cons d rest ih => exact congrArg (parse d.1 d.2 :: ·) ih
  refine ⟨hmap docs, fun pre post d => ?_⟩
  rw [hmap]
  simp

/-- non-vacuity: a document that fails inside a zlib stream (declared zlib, not inflatable), then a healthy
one: the healthy one's result is the one it has alone -/
example :
    let bad : List (Event Int) := [.start .spectrum (some "z") none, .start .binaryDataArray none none,
      .cv .mzArray .absent .absent, .cv .f32 .absent .absent, .cv .zlib .absent .absent, .start .binary none none,
      .text (.data [120, 156, 1, 2, 3] none), .stop .binary, .stop .binaryDataArray, .stop .spectrum]
    (parseSeq [({}, bad), ({}, exBare.events)]).map Except.toOption =
      [none, (parse {} exBare.events).toOption] ∧ (parse {} exBare.events).toOption.map List.length = some 1 := by
  decide +kernel

theorem child_run (cfg : Config) (hf : cfg.filter = none) (ch : Child ν) (a : Acc ν) (c d : Bool) (k : Option Kind)
    (hwf : ch.wf = true) :
    ∃ c' d' k', run cfg (a.toState c d k) ch.events = .ok ((a.step ch).toState c' d' k', []) := by
  cases ch with
  | param p =>
    refine ⟨c, d, k, run_cons_silent ?_ rfl⟩
    rw [Param.ev, step, cvSpectrum_ok cfg _ p rfl ⟨hwf, fun _ => allows_of_no_filter hf _⟩]
    simp only [specUpd, lastOf_cons_getD]
    rfl
  | scan ps => exact ⟨c, d, k, run_scanEvents cfg ps _ rfl (List.all_eq_true.mp hwf)⟩
  | prec p => exact ⟨c, d, k, run_prec cfg p a c d k hwf⟩
  | arr x =>
    obtain ⟨k1, h1⟩ := run_arr cfg x (a.toState c d k) true (allows_of_no_filter hf _) rfl hwf
    exact ⟨x.zlib, x.is64, k1, h1⟩

theorem children_run (cfg : Config) (hf : cfg.filter = none) (chs : List (Child ν)) (a : Acc ν) (c d : Bool)
    (k : Option Kind) (hwf : ∀ ch ∈ chs, ch.wf = true) :
    ∃ c' d' k', run cfg (a.toState c d k) (chs.flatMap Child.events) =
      .ok ((chs.foldl Acc.step a).toState c' d' k', []) := by
  induction chs generalizing a c d k with
  | nil => exact ⟨c, d, k, rfl⟩
  | cons ch rest ih =>
    obtain ⟨hch, hrest⟩ := List.forall_mem_cons.mp hwf
    obtain ⟨c1, d1, k1, h1⟩ := child_run cfg hf ch a c d k hch
    obtain ⟨c2, d2, k2, h2⟩ := ih (a.step ch) c1 d1 k1 hrest
    exact ⟨c2, d2, k2, run_append_ok h1 h2⟩

/-- **C16.faithful_unordered** — without a level filter the reader's result IS a function of a
well-nested element whose children (cvParams, scans, precursors, binary data arrays, each
well-formed) come in ANY order: the left fold `readingU` — every scalar field and every array kind
"last one wins", one precursor appended per `<precursor>` with non-zero m/z, a scan's ion mobility
handed to the next precursor only — then the S/N division. With a level filter this fails: see
`child_order_matters`. -/
theorem faithful_unordered (cfg : Config) (hf : cfg.filter = none) (e : SpecElU ν) (c d : Bool) (k : Option Kind)
    (hwf : ∀ ch ∈ e.children, ch.wf = true) :
    ∃ c' d' k', run cfg (PState.fresh c d k) e.events = .ok (PState.fresh c' d' k', [readingU cfg e]) := by
  obtain ⟨c', d', k', h⟩ := children_run cfg hf e.children
    ⟨{ (Spectrum.blank : Spectrum ν) with id := e.id }, [], none⟩ c d k hwf
  exact ⟨c', d', k', run_cons_silent rfl (run_append_ok h (run_stop_spectrum
    (emit_eq (allows_of_no_filter hf _))))⟩

/-- non-vacuity: arrays first, then the precursor, then the scan (whose mobility therefore reaches no
precursor), then the params -/
def exUnordered : SpecElU Int :=
  { id := "u"
    children :=
      [.arr ⟨[⟨.intensityArray, .absent, .absent⟩, ⟨.f32, .absent, .absent⟩, ⟨.noCompression, .absent, .absent⟩],
             .data [8, 0, 0, 0, 10, 0, 0, 0] none⟩,
       .prec ⟨none, [], [[⟨.selMz, .nat 500, .absent⟩]], []⟩,
       .scan [⟨.scanStart, .nat 120, .seconds⟩, ⟨.invMobility, .nat 9, .absent⟩],
       .param ⟨.msLevel, .nat 2, .absent⟩] }

example : exUnordered.children.all Child.wf = true ∧
    readingU {} exUnordered = ⟨"u", 2, false, 0, 2, 0, [⟨500, none, none, none, none, none⟩], [], [8, 10]⟩ ∧
    (parse {} exUnordered.events).toOption = some [readingU {} exUnordered] := by decide +kernel

/-- **C16.child_order_matters** — outside the schema's child order the reader's result is NOT a
function of the set of children (so `faithful` cannot be extended to arbitrary orders by sorting):
(1) with a level filter, an array that precedes the `ms level` param is skipped (the level is still 0
when its text is read), the same array after the param is kept; (2) even without a filter, a `<scan>`
that carries the ion mobility gives it to the next `<precursor>` only: placed after the precursor it
is lost. Witnesses on the model; the correspondence stream `chaos` ties such orders to the code. -/
theorem child_order_matters :
    let level : Event Int := .cv .msLevel (.nat 2) .absent
    let arr : List (Event Int) := [.start .binaryDataArray none none, .cv .mzArray .absent .absent,
      .cv .f32 .absent .absent, .cv .noCompression .absent .absent, .start .binary none none,
      .text (.data [7, 0, 0, 0] none), .stop .binary, .stop .binaryDataArray]
    let scan : List (Event Int) := [.start .scan none none, .cv .invMobility (.nat 9) .absent, .stop .scan]
    let prec : List (Event Int) := [.start .precursor none none, .start .selectedIon none none,
      .cv .selMz (.nat 500) .absent, .stop .selectedIon, .stop .precursor]
    let doc (body : List (Event Int)) := [Event.start .spectrum (some "a") none] ++ body ++ [.stop .spectrum]
    (parse { filter := some 2 } (doc (level :: arr))).toOption.map (fun sps => sps.map (·.mz)) = some [[7]] ∧
    (parse { filter := some 2 } (doc (arr ++ [level]))).toOption.map (fun sps => sps.map (·.mz)) = some [[]] ∧
    (parse {} (doc (level :: scan ++ prec))).toOption.map (fun sps => sps.map (fun sp => sp.precursors.map (·.mobility)))
      = some [[some 9]] ∧
    (parse {} (doc (level :: prec ++ scan))).toOption.map (fun sps => sps.map (fun sp => sp.precursors.map (·.mobility)))
      = some [[none]] := by decide +kernel

/-- an MS2 element whose `total ion current` is 0, with a precursor and an (empty) m/z array after it -/
def exTicZero : SpecEl Int :=
  { id := "zero", params := [⟨.msLevel, .nat 2, .absent⟩, ⟨.centroid, .absent, .absent⟩, ⟨.tic, .nat 0, .absent⟩],
    scans := [[⟨.scanStart, .nat 120, .seconds⟩]],
    precs := [{ ref := some "scan=1", iso := [], ions := [[⟨.selMz, .nat 500, .absent⟩]], act := [] }],
    arrays := [{ params := [⟨.mzArray, .absent, .absent⟩, ⟨.f32, .absent, .absent⟩, ⟨.noCompression, .absent, .absent⟩],
                 payload := .empty }] }

/-- **C16.tic_zero_read_as_encoded** — a `total ion current` of 0 is
an ordinary value: such an element is well-formed, so `faithful` / `locality` apply to it without any
side condition, and it is read as encoded — its own id, level, representation, scan time and
precursor, TIC 0 — not as the blank spectrum (id "", level 0) the code returned
before the repair of finding C16-tic-zero. -/
theorem tic_zero_read_as_encoded :
    WellFormed exTicZero ∧ exTicZero.noTicZero = false ∧
    (parse {} exTicZero.events).toOption =
      some [⟨"zero", 2, true, 0, 2, 0, [⟨500, none, none, some "scan=1", none, none⟩], [], []⟩] ∧
    (parse {} exTicZero.events).toOption ≠ some [Spectrum.blank] ∧
    (parse { filter := some 2, sn := some 2 } (exBare.events ++ exTicZero.events ++ exBare.events)).toOption.map
      (fun sps => sps.map (·.id)) = some ["scan=2", "zero", "scan=2"] := by
  refine ⟨(by decide +kernel : exTicZero.wf = true), by decide +kernel, by decide +kernel, by decide +kernel, by decide +kernel⟩

end Sage.C16
