import SageModel.Model.C13
import SageModel.Lemmas.C13Competition
import Mathlib.Algebra.Order.Field.Rat
import Mathlib.Tactic.NormNum
import Mathlib.Order.Defs.LinearOrder
import Mathlib.Data.List.Nodup

/-!
# C13 — Peptide-, protein- and precursor-level q-values are consistent and monotone

Property text: *All PSMs of one peptide receive the same peptide-level q-value and all PSMs of one
protein group the same protein-level q-value; a target and its generated decoy compete under one key.
Every such q-value, and every MS1-peak q-value from label-free quantification, lies in (0, 1], an
entity whose best score is strictly higher never receives a larger q-value than one whose best score
is lower, the returned counts equal the number of target entities at or below the threshold, and the
assignment is unaffected (beyond rounding) by the order in which PSMs are supplied.*

The theorems are about the model in `Model/C13.lean` at `α := ℚ` (exact arithmetic; the code's f32
rounding is not modelled) and an arbitrary linearly ordered score type `σ`, for every PSM list of every
length, every posterior-error function `pep` with `0 ≤ pep s` (the fitted estimator is a parameter)
and every iteration order of the hash map.
-/

namespace Sage.C13

theorem revMid_shape {β : Type} (a z : β) (mid : List β) :
    revMid (a :: (mid ++ [z])) = a :: (mid.reverse ++ [z]) := by
  have hl : (a :: (mid ++ [z])).length = mid.length + 2 := by
    rw [List.length_cons, List.length_append, List.length_singleton]
  unfold revMid
  rw [hl, List.drop_succ_cons, List.drop_zero, Nat.add_sub_cancel, List.take_left' rfl, Nat.add_succ_sub_one,
    List.drop_succ_cons, List.drop_left' rfl]
  split
  · rfl
  · cases mid with
    | nil => rfl
    | cons m ms => exact absurd (Nat.succ_lt_succ (Nat.succ_pos _)) ‹_›

theorem revMid_involutive {β : Type} (l : List β) : revMid (revMid l) = l := by
  match l with
  | [] => simp [revMid]
  | [a] => simp [revMid]
  | a :: b :: t =>
    rcases List.eq_nil_or_concat' (b :: t) with h | ⟨mid, z, h⟩
    · simp at h
    · rw [h, revMid_shape, revMid_shape, List.reverse_reverse]

/-- `Peptide::reverse` is an involution (sequence, modifications, decoy flag) -/
theorem reverse_involutive (p : Pep) : p.reverse.reverse = p := by
  cases p; simp [Pep.reverse, revMid_involutive]

/-- **C13.target_decoy_one_key** — with internally generated decoys, a target peptide and the decoy
    generated from it (`Peptide::reverse`) are filed under the same key by `picked_peptide` … -/
theorem target_decoy_one_key (t : Pep) (ht : t.decoy = false) :
    pepKey true t.reverse = pepKey true t := by
  have h1 : t.reverse.decoy = true := by simp [Pep.reverse, ht]
  simp [pepKey, h1, ht, reverse_involutive]

/-- … and by `picked_protein` (the key is the protein list, which `reverse` does not touch). That the two
    are told apart by the index they store (the decoy's protein string carries the decoy tag) is not proved:
    it is part of the hypothesis of `canon_of_db_protein`, and fails for an empty tag. -/
theorem target_decoy_one_key_protein (t : Pep) : t.reverse.prots = t.prots := rfl

/-! Where a lemma's hypothesis or conclusion already fixes the order instances of `ι` and `σ`, they are implicit
arguments `{_ : LE ι}` (read off by unification): the search for them from `LinearOrder` at every use is slow. -/

section passes
variable {κ ι σ α : Type}

theorem fwdPass_fst [Add α] [Div α] (inc : Row ι σ → α) (cast : Nat → α) (d : α) (t : Nat)
    (rows : List (Row ι σ)) : (fwdPass inc cast d t rows).map (·.1) = rows := by
  induction rows generalizing d t with
  | nil => rfl
  | cons r rs ih => simp only [fwdPass, List.map_cons, ih]

theorem cummin_fst [LE α] [DecidableLE α] (one : α) (l : List (Row ι σ × Option α)) :
    (cummin one l).map (·.1) = l.map (·.1) := by
  induction l with
  | nil => rfl
  | cons x xs ih => obtain ⟨r, x⟩ := x; simp only [cummin, List.map_cons, ih]

section
variable {_ : LE σ} {_ : DecidableLE σ} {_ : LE ι} {_ : DecidableLE ι} [Add α] [Div α] [LE α] [DecidableLE α]

theorem tab_fst (inc : Row ι σ → α) (cast : Nat → α) (one thr : α) (rows : List (Row ι σ)) :
    (assignRows inc cast one thr rows).1.map (·.1) = sortRows rows :=
  (cummin_fst one _).trans (fwdPass_fst inc cast one 0 _)

theorem sortRows_of_sorted {rows : List (Row ι σ)} (h : rows.Pairwise fun a b => rowLe a b = true) :
    sortRows rows = rows :=
  List.mergeSort_of_pairwise h

theorem tab_perm (inc : Row ι σ → α) (cast : Nat → α) (one thr : α) (rows : List (Row ι σ)) :
    ((assignRows inc cast one thr rows).1.map (·.1)).Perm rows :=
  (tab_fst inc cast one thr rows).symm ▸ List.mergeSort_perm _ _

theorem assignQ_rows_perm (pep : σ → α) (cast : Nat → α) (one thr : α) {es es' : List (κ × Comp ι σ)}
    (h : es.Perm es') : ((assignQ pep cast one thr es).1.map (·.1)).Perm (rowsOf es') :=
  (tab_perm _ cast one thr (rowsOf es)).trans (List.Perm.flatMap_right _ h)

end

theorem ratio_eq_some [Div α] {cast : Nat → α} {d : α} {t : Nat} {y : α} (h : ratio cast d t = some y) :
    t ≠ 0 ∧ y = d / cast t := by
  unfold ratio at h
  split at h
  · cases h
  · exact ⟨‹_›, (Option.some.inj h).symm⟩

theorem fwdPass_forall [Add α] [Div α] (inc : Row ι σ → α) (cast : Nat → α) (D : α → Prop)
    (hadd : ∀ d r, D d → D (d + inc r)) (hdiv : ∀ d t, D d → t ≠ 0 → D (d / cast t))
    (d : α) (t : Nat) (rows : List (Row ι σ)) (hd : D d) :
    ∀ e ∈ fwdPass inc cast d t rows, ∀ y, e.2 = some y → D y := by
  induction rows generalizing d t with
  | nil => exact fun _ he => absurd he List.not_mem_nil
  | cons r rs ih =>
    intro e he y hy
    simp only [fwdPass, List.mem_cons] at he
    rcases he with rfl | he
    · obtain ⟨ht, rfl⟩ := ratio_eq_some hy
      exact hdiv _ _ (hadd d r hd) ht
    · exact ih _ _ (hadd d r hd) e he y hy

theorem cummin_forall [LE α] [DecidableLE α] (one : α) (I : α → Prop) (h1 : I one)
    (l : List (Row ι σ × Option α)) (hq : ∀ e ∈ l, ∀ m, I m → I (qmin m e.2)) :
    I (hd one (cummin one l)) ∧ ∀ rq ∈ cummin one l, I rq.2 := by
  induction l with
  | nil => exact ⟨h1, fun _ he => absurd he List.not_mem_nil⟩
  | cons e es ih =>
    obtain ⟨r, x⟩ := e
    have ih' := ih fun e he => hq e (List.mem_cons_of_mem _ he)
    have h := hq (r, x) List.mem_cons_self _ ih'.1
    exact ⟨h, List.forall_mem_cons.mpr ⟨h, ih'.2⟩⟩

theorem qmin_le (m : ℚ) (x : Option ℚ) : qmin m x ≤ m := by
  cases x with
  | none => exact le_rfl
  | some x => simp only [qmin]; split <;> simp_all

theorem qmin_pos {m : ℚ} {x : Option ℚ} (hm : 0 < m) (hx : ∀ y, x = some y → 0 < y) : 0 < qmin m x := by
  cases x with
  | none => exact hm
  | some y => simp only [qmin]; split; exacts [hx y rfl, hm]

theorem cummin_mono (l : List (Row ι σ × Option ℚ)) :
    (cummin (1 : ℚ) l).Pairwise (fun a b => a.2 ≤ b.2) ∧ ∀ q ∈ cummin (1 : ℚ) l, hd 1 (cummin (1 : ℚ) l) ≤ q.2 := by
  induction l with
  | nil => exact ⟨List.Pairwise.nil, fun _ hq => absurd hq List.not_mem_nil⟩
  | cons e es ih =>
    obtain ⟨r, x⟩ := e
    -- the new `q_min` is at most the old one, which is at most every later q
    have h := fun q hq => (qmin_le _ x).trans (ih.2 q hq)
    exact ⟨List.pairwise_cons.mpr ⟨h, ih.1⟩, List.forall_mem_cons.mpr ⟨le_rfl, h⟩⟩

variable {_ : DecidableEq ι}

theorem lookupQ_mem {tab : List (Row ι σ × α)} {ix : ι} {q : α} (h : lookupQ tab ix = some q) :
    ∃ r, (r, q) ∈ tab ∧ r.ix = ix := by
  obtain ⟨rq, hf, rfl⟩ := Option.map_eq_some_iff.mp h
  exact ⟨rq.1, List.mem_reverse.mp (List.mem_of_find?_eq_some hf), by simpa using List.find?_some hf⟩

theorem lookupQ_of_mem {tab : List (Row ι σ × α)} (h : (tab.map (·.1.ix)).Nodup)
    {rq : Row ι σ × α} (hm : rq ∈ tab) : lookupQ tab rq.1.ix = some rq.2 := by
  cases hf : tab.reverse.find? (fun x => x.1.ix = rq.1.ix) with
  | none => exact absurd (List.find?_eq_none.mp hf rq (List.mem_reverse.mpr hm)) (by simp)
  | some x =>
    have := List.inj_on_of_nodup_map h (List.mem_reverse.mp (List.mem_of_find?_eq_some hf)) hm
      (by simpa using List.find?_some hf)
    rw [lookupQ, hf, this]
    rfl

theorem mem_targetEntities (psms : List (Psm κ ι σ)) (ix : ι) :
    ix ∈ targetEntities psms ↔ ∃ p ∈ psms, p.decoy = false ∧ p.ix = ix := by
  simp only [targetEntities, List.mem_eraseDups, List.mem_map, List.mem_filter,
    Bool.not_eq_eq_eq_not, Bool.not_true, and_assoc]

theorem pickedWith_eq_some {_ : LE ι} {_ : DecidableLE ι} {_ : LE σ} {_ : DecidableLE σ}
    [Add α] [Div α] [LE α] [DecidableLE α]
    {pep : σ → α} {cast : Nat → α} {one thr : α} {es : List (κ × Comp ι σ)} {psms : List (Psm κ ι σ)}
    {qs : List α} {n : Nat} (h : pickedWith pep cast one thr es psms = some (qs, n)) :
    n = (assignQ pep cast one thr es).2 ∧ ∃ Q : ι → α, qs = psms.map (fun p => Q p.ix) ∧
      ∀ p ∈ psms, lookupQ (assignQ pep cast one thr es).1 p.ix = some (Q p.ix) := by
  unfold pickedWith at h
  simp only at h
  split at h
  · rename_i hall
    cases h
    exact ⟨rfl, fun ix => (lookupQ _ ix).getD one, rfl, fun p hp =>
      (Option.getD_of_ne_none (Option.isSome_iff_ne_none.mp (List.all_eq_true.mp hall p hp)) one).symm⟩
  · cases h

theorem specVerdict_ok {_ : LE σ} {_ : DecidableLE σ} {_ : LE α} {_ : DecidableLE α} {_ : LT α}
    {_ : DecidableLT α} {bot : σ} {zero one thr : α} {psms : List (Psm κ ι σ)} {qs : List α} {n : Nat}
    (h1 : qs.length = psms.length) (h2 : specRange zero one qs = true) (h3 : specSame (psms.zip qs) = true)
    (h4 : specAnti ((psms.zip qs).map fun a => (best bot psms a.1.ix, a.2)) = true)
    (h5 : specCount thr psms (psms.zip qs) = n) : specVerdict bot zero one thr psms qs n = "ok" := by
  rw [specVerdict, if_neg (not_not.mpr h1), h2, h3, h4, if_neg (not_not.mpr h5)]
  rfl

end passes

section canon
variable {κ ι σ : Type}

/-- The database is canonical for the PSM list: the index a PSM stores and the pair (key, decoy flag)
    determine each other. This is what a database built by `Parameters::build` provides (one peptide
    per string and decoy flag; one protein-group string per protein list and decoy flag); without it
    `picked_peptide` panics or merges entities. -/
def Canon (psms : List (Psm κ ι σ)) : Prop :=
  ∀ p ∈ psms, ∀ q ∈ psms, (p.key = q.key ∧ p.decoy = q.decoy) ↔ p.ix = q.ix

variable {_ : DecidableEq κ} {_ : LE σ} {_ : DecidableLE σ} (bot : σ) {psms : List (Psm κ ι σ)}

theorem rowsOf_competition :
    rowsOf (competition bot psms) = (keysOf psms).flatMap fun k => (compOf bot psms k).rows := by
  rw [competition_eq, rowsOf, List.flatMap_map]

theorem compOf_ixOf_eq_some (hc : Canon psms) (k : κ) (d : Bool) (i : ι) :
    (compOf bot psms k).ixOf d = some i ↔ ∃ p ∈ psms, p.key = k ∧ p.decoy = d ∧ p.ix = i := by
  have hmem : ∀ p, p ∈ ((psms.filter fun p => p.key = k).filter fun p => p.decoy == d) ↔
      p ∈ psms ∧ p.key = k ∧ p.decoy = d := fun p => by
    simp only [List.mem_filter, decide_eq_true_eq, beq_iff_eq, and_assoc]
  rw [compOf_ixOf, Option.map_eq_some_iff]
  constructor
  · rintro ⟨p, hp, rfl⟩
    obtain ⟨h1, h2, h3⟩ := (hmem p).mp (List.mem_of_getLast? hp)
    exact ⟨p, h1, h2, h3, rfl⟩
  · rintro ⟨p, hp, hk, hd, rfl⟩
    obtain ⟨q, hq⟩ := Option.isSome_iff_exists.mp
      (List.getLast?_isSome.mpr (List.ne_nil_of_mem ((hmem p).mpr ⟨hp, hk, hd⟩)))
    obtain ⟨h1, h2, h3⟩ := (hmem q).mp (List.mem_of_getLast? hq)
    exact ⟨q, hq, (hc q h1 p hp).mp ⟨h2.trans hk.symm, h3.trans hd.symm⟩⟩

variable {_ : DecidableEq ι}

theorem compOf_scoreOf_eq_best (hc : Canon psms) (p : Psm κ ι σ) (hp : p ∈ psms) :
    (compOf bot psms p.key).scoreOf p.decoy = best bot psms p.ix := by
  rw [compOf_scoreOf, best, List.filter_filter]
  refine congrArg (List.foldl _ bot) (List.filter_congr fun q hq => ?_)
  rw [Bool.eq_iff_iff, Bool.and_eq_true, beq_iff_eq, decide_eq_true_eq, decide_eq_true_eq, and_comm]
  exact hc q hq p hp

theorem mem_rowsOf_competition (hc : Canon psms) (r : Row ι σ) :
    r ∈ rowsOf (competition bot psms) ↔
      (∃ p ∈ psms, p.ix = r.ix ∧ p.decoy = r.decoy) ∧ r.score = best bot psms r.ix := by
  simp only [rowsOf_competition, List.mem_flatMap, mem_rows, compOf_ixOf_eq_some bot hc]
  constructor
  · rintro ⟨_, -, ⟨p, hp, rfl, hd, hi⟩, hs⟩
    exact ⟨⟨p, hp, hi, hd⟩, by rw [hs, ← hd, compOf_scoreOf_eq_best bot hc p hp, hi]⟩
  · rintro ⟨⟨p, hp, hi, hd⟩, hs⟩
    exact ⟨p.key, mem_keysOf.mpr ⟨p, hp, rfl⟩, ⟨p, hp, rfl, hd, hi⟩,
      by rw [hs, ← hd, compOf_scoreOf_eq_best bot hc p hp, hi]⟩

theorem nodup_rowsOf_ix (hc : Canon psms) :
    ((rowsOf (competition bot psms)).map (·.ix)).Nodup := by
  have hrow : ∀ k, ∀ r ∈ (compOf bot psms k).rows, ∃ p ∈ psms, p.key = k ∧ p.decoy = r.decoy ∧ p.ix = r.ix :=
    fun k r hr => (compOf_ixOf_eq_some bot hc k _ _).mp (mem_rows.mp hr).1
  rw [rowsOf_competition, List.map_flatMap, List.nodup_flatMap]
  constructor
  · -- at most one target row and one decoy row; their indices differ
    refine fun k _ => Comp.nodup_rows_ix _ fun i hi hi' => ?_
    obtain ⟨p, hp, -, h2, h3⟩ := (compOf_ixOf_eq_some bot hc k false i).mp hi
    obtain ⟨q, hq, -, g2, g3⟩ := (compOf_ixOf_eq_some bot hc k true i).mp hi'
    have := ((hc p hp q hq).mpr (h3.trans g3.symm)).2
    rw [h2, g2] at this
    cases this
  · refine (nodup_keysOf psms).imp fun {k k'} hne => ?_
    simp only [Function.onFun, List.disjoint_left, List.mem_map]
    rintro x ⟨r, hr, rfl⟩ ⟨r', hr', e⟩
    obtain ⟨p, hp, h1, -, h3⟩ := hrow k r hr
    obtain ⟨q, hq, g1, -, g3⟩ := hrow k' r' hr'
    exact hne (h1 ▸ g1 ▸ ((hc p hp q hq).mpr (by rw [h3, g3, e])).1)

end canon

theorem nodup_eraseDups {β : Type} [DecidableEq β] : ∀ l : List β, l.eraseDups.Nodup
  | [] => List.nodup_nil
  | a :: as => by
    rw [List.eraseDups_cons, List.nodup_cons, List.mem_eraseDups]
    exact ⟨by simp, nodup_eraseDups _⟩
termination_by l => l.length
decreasing_by exact Nat.lt_succ_of_le (List.length_filter_le _ _)

section table
variable {κ ι σ α : Type} {_ : DecidableEq κ} {_ : LE σ} {_ : DecidableLE σ} {_ : LE ι} {_ : DecidableLE ι}
  [Add α] [Div α] [LE α] [DecidableLE α] (bot : σ) (pep : σ → α) (cast : Nat → α) (one thr : α)
  {psms : List (Psm κ ι σ)} {es : List (κ × Comp ι σ)}

theorem tab_ix_nodup (hc : Canon psms) (hes : es.Perm (competition bot psms)) :
    ((assignQ pep cast one thr es).1.map (·.1.ix)).Nodup := by
  have h1 : ((assignQ pep cast one thr es).1.map (·.1)).Perm _ := assignQ_rows_perm pep cast one thr hes
  have h2 := h1.map (·.ix)
  rw [List.map_map] at h2
  exact h2.symm.nodup (nodup_rowsOf_ix bot hc)

variable [DecidableEq ι]

theorem mem_tab_iff (hc : Canon psms) (hes : es.Perm (competition bot psms)) (r : Row ι σ) :
    (∃ q, (r, q) ∈ (assignQ pep cast one thr es).1) ↔
      (∃ p ∈ psms, p.ix = r.ix ∧ p.decoy = r.decoy) ∧ r.score = best bot psms r.ix := by
  rw [← mem_rowsOf_competition bot hc, ← (assignQ_rows_perm pep cast one thr hes).mem_iff]
  exact ⟨fun ⟨q, h⟩ => List.mem_map.mpr ⟨(r, q), h, rfl⟩,
    fun h => let ⟨rq, hm, e⟩ := List.mem_map.mp h; ⟨rq.2, e ▸ hm⟩⟩

theorem target_rows_entities (hc : Canon psms) (hes : es.Perm (competition bot psms)) :
    (((assignQ pep cast one thr es).1.filter fun rq => !rq.1.decoy).map (·.1.ix)).Perm (targetEntities psms) := by
  refine (List.perm_ext_iff_of_nodup ((tab_ix_nodup bot pep cast one thr hc hes).sublist
    (List.filter_sublist.map _)) (nodup_eraseDups _)).mpr fun ix => ?_
  show _ ↔ ix ∈ targetEntities psms
  rw [mem_targetEntities]
  simp only [List.mem_map, List.mem_filter, Bool.not_eq_eq_eq_not, Bool.not_true]
  constructor
  · rintro ⟨rq, ⟨hm, hd⟩, rfl⟩
    obtain ⟨⟨p, hp, hpi, hpd⟩, -⟩ := (mem_tab_iff bot pep cast one thr hc hes rq.1).mp ⟨rq.2, hm⟩
    exact ⟨p, hp, hpd.trans hd, hpi⟩
  · rintro ⟨p, hp, hd, rfl⟩
    obtain ⟨q, hm⟩ := (mem_tab_iff bot pep cast one thr hc hes ⟨p.ix, false, best bot psms p.ix⟩).mpr
      ⟨⟨p, hp, rfl, hd⟩, rfl⟩
    exact ⟨_, ⟨hm, rfl⟩, rfl⟩

end table

section theory
variable {κ ι σ : Type} [LinearOrder ι]

set_option linter.unusedSectionVars false

/-- `usize as f32` at ℚ -/
abbrev castQ : Nat → ℚ := fun n => (n : ℚ)

section sorting
variable [LinearOrder σ]

theorem rowLe_iff (a b : Row ι σ) : rowLe a b = true ↔
    b.score < a.score ∨ (a.score = b.score ∧
      ((a.decoy = true ∧ b.decoy = false) ∨ (a.decoy = b.decoy ∧ a.ix ≤ b.ix))) := by
  obtain ⟨ai, ad, as⟩ := a
  obtain ⟨bi, bd, bs⟩ := b
  unfold rowLe
  rcases lt_trichotomy as bs with h | rfl | h
  · rw [if_neg (not_not.mpr h.le), if_pos h.not_ge]
    exact iff_of_false Bool.false_ne_true fun h' => h'.elim h.not_gt fun h' => h.ne h'.1
  · rw [if_neg (not_not.mpr le_rfl), if_neg (not_not.mpr le_rfl)]
    cases ad <;> cases bd <;> simp
  · rw [if_pos h.not_ge]
    exact iff_of_true rfl (Or.inl h)

theorem rowLe_total (a b : Row ι σ) : (rowLe a b || rowLe b a) = true := by
  rw [Bool.or_eq_true, rowLe_iff, rowLe_iff]
  rcases lt_trichotomy a.score b.score with h | h | h
  · exact Or.inr (Or.inl h)
  · by_cases hd : a.decoy = b.decoy
    · exact (le_total a.ix b.ix).imp (fun h' => Or.inr ⟨h, Or.inr ⟨hd, h'⟩⟩)
        fun h' => Or.inr ⟨h.symm, Or.inr ⟨hd.symm, h'⟩⟩
    · rcases Bool.eq_false_or_eq_true a.decoy with ha | ha <;>
        rcases Bool.eq_false_or_eq_true b.decoy with hb | hb
      · exact absurd (ha.trans hb.symm) hd
      · exact Or.inl (Or.inr ⟨h, Or.inl ⟨ha, hb⟩⟩)
      · exact Or.inr (Or.inr ⟨h.symm, Or.inl ⟨hb, ha⟩⟩)
      · exact absurd (ha.trans hb.symm) hd
  · exact Or.inl (Or.inl h)

theorem rowLe_trans (a b c : Row ι σ) (h1 : rowLe a b = true) (h2 : rowLe b c = true) : rowLe a c = true := by
  rw [rowLe_iff] at *
  rcases h1 with h1 | ⟨e1, h1⟩ <;> rcases h2 with h2 | ⟨e2, h2⟩
  · exact Or.inl (h2.trans h1)
  · exact Or.inl (e2 ▸ h1)
  · exact Or.inl (e1 ▸ h2)
  · refine Or.inr ⟨e1.trans e2, ?_⟩
    rcases h1 with ⟨x1, y1⟩ | ⟨x1, y1⟩ <;> rcases h2 with ⟨x2, y2⟩ | ⟨x2, y2⟩
    · rw [y1] at x2; cases x2
    · exact Or.inl ⟨x1, by rw [← x2, y1]⟩
    · exact Or.inl ⟨by rw [x1, x2], y2⟩
    · exact Or.inr ⟨x1.trans x2, le_trans y1 y2⟩

theorem rowLe_antisymm (a b : Row ι σ) (h1 : rowLe a b = true) (h2 : rowLe b a = true) : a = b := by
  rw [rowLe_iff] at *
  obtain ⟨ai, ad, as⟩ := a
  obtain ⟨bi, bd, bs⟩ := b
  simp only at h1 h2
  rcases h1 with h1 | ⟨e1, h1⟩ <;> rcases h2 with h2 | ⟨e2, h2⟩
  · exact absurd h1 h2.asymm
  · exact absurd h1 (e2 ▸ lt_irrefl _)
  · exact absurd h2 (e1 ▸ lt_irrefl _)
  · rcases h1 with ⟨x1, y1⟩ | ⟨x1, y1⟩ <;> rcases h2 with ⟨x2, y2⟩ | ⟨x2, y2⟩
    · rw [x1] at y2; cases y2
    · rw [x1, y1] at x2; cases x2
    · rw [x2, y2] at x1; cases x1
    · rw [e1, x1, le_antisymm y1 y2]

theorem sortRows_sorted (rows : List (Row ι σ)) : (sortRows rows).Pairwise (fun a b => rowLe a b = true) :=
  List.pairwise_mergeSort rowLe_trans rowLe_total rows

/-- the sort key is total on rows, so the sorted list depends only on the multiset of rows -/
theorem sortRows_perm_eq {l l' : List (Row ι σ)} (h : l.Perm l') : sortRows l = sortRows l' :=
  List.Perm.eq_of_pairwise (fun a b _ _ hab hba => rowLe_antisymm a b hab hba) (sortRows_sorted _) (sortRows_sorted _)
    ((List.mergeSort_perm _ _).trans (h.trans (List.mergeSort_perm _ _).symm))

theorem assignRows_perm {α : Type} [Add α] [Div α] [LE α] [DecidableLE α] (inc : Row ι σ → α) (cast : Nat → α)
    (one thr : α) {rows rows' : List (Row ι σ)} (h : rows.Perm rows') :
    assignRows inc cast one thr rows = assignRows inc cast one thr rows' := by
  simp only [assignRows, sortRows_perm_eq h]

theorem tab_pairwise (inc : Row ι σ → ℚ) (thr : ℚ) (rows : List (Row ι σ)) :
    (assignRows inc castQ 1 thr rows).1.Pairwise (fun a b => b.1.score ≤ a.1.score ∧ a.2 ≤ b.2) := by
  have h1 := (sortRows_sorted rows).imp fun {a b} h => ((rowLe_iff a b).mp h).elim le_of_lt fun h => h.1.ge
  rw [← tab_fst inc castQ 1 thr rows, List.pairwise_map] at h1
  exact h1.and (cummin_mono _).1

end sorting

theorem eq_of_nodup_map {β γ : Type} (f : β → γ) (l : List β) (h : (l.map f).Nodup) {a b : β}
    (ha : a ∈ l) (hb : b ∈ l) (e : f a = f b) : a = b :=
  List.inj_on_of_nodup_map h ha hb e

theorem Canon.perm {psms psms' : List (Psm κ ι σ)} (hc : Canon psms) (hp : psms.Perm psms') : Canon psms' :=
  fun p hp' q hq' => hc p (hp.mem_iff.mpr hp') q (hp.mem_iff.mpr hq')

section competitionRows
variable [DecidableEq κ] [LinearOrder σ]

theorem smax_eq_max (a b : σ) : smax a b = max a b := (max_def a b).symm

theorem rows_ix_nodup (bot : σ) (psms : List (Psm κ ι σ)) (hc : Canon psms) :
    ((rowsOf (competition bot psms)).map (·.ix)).Nodup :=
  nodup_rowsOf_ix bot hc

/-- max is commutative and associative; the stored index is determined by key and decoy flag -/
theorem compOf_perm (bot : σ) {psms psms' : List (Psm κ ι σ)} (hp : psms.Perm psms') (hc : Canon psms) (k : κ) :
    compOf bot psms k = compOf bot psms' k := by
  refine Comp.ext_sides fun d => ⟨Option.ext fun i => ?_, ?_⟩
  · simp only [compOf_ixOf_eq_some bot hc, compOf_ixOf_eq_some bot (hc.perm hp), hp.mem_iff]
  · rw [compOf_scoreOf, compOf_scoreOf]
    refine List.Perm.foldl_eq' ((hp.filter _).filter _) (fun x _ y _ z => ?_) _
    simp only [smax_eq_max, max_right_comm]

end competitionRows

/-- key 0: a target (index 0) and its decoy (index 1) both hit; key 1: one target hit twice;
    key 2: a decoy only; key 3: a target only. Scores all different. -/
def exPsms : List (Psm Nat Nat Nat) :=
  [⟨0, false, 0, 9⟩, ⟨0, true, 1, 8⟩, ⟨1, false, 2, 7⟩, ⟨1, false, 2, 5⟩, ⟨2, true, 3, 4⟩, ⟨3, false, 4, 2⟩]

def exPep : Nat → ℚ := fun s => if 7 ≤ s then 0 else 1/2

theorem exPep_nonneg : ∀ s, 0 ≤ exPep s := by intro s; unfold exPep; split <;> norm_num

theorem ex_canon : Canon exPsms := by unfold Canon; decide +kernel

theorem ex_rows : rowsOf (competition 0 exPsms) =
    [⟨0, false, 9⟩, ⟨1, true, 8⟩, ⟨2, false, 7⟩, ⟨3, true, 4⟩, ⟨4, false, 2⟩] := by decide +kernel

theorem ex_assign : assignQ exPep castQ 1 (1/2) (competition 0 exPsms) =
    ([(⟨0, false, 9⟩, 1/2), (⟨1, true, 8⟩, 1/2), (⟨2, false, 7⟩, 1/2), (⟨3, true, 4⟩, 2/3), (⟨4, false, 2⟩, 2/3)], 2) := by
  unfold assignQ assignRows
  rw [ex_rows, sortRows_of_sorted (by decide +kernel)]
  decide +kernel

/-- the worked example: q-values per PSM and the passing count (threshold 1/2) -/
theorem ex_result : pickedWith exPep castQ 1 (1/2) (competition 0 exPsms) exPsms =
    some ([1/2, 1/2, 1/2, 1/2, 2/3, 2/3], 2) := by
  unfold pickedWith
  rw [ex_assign]
  decide +kernel

/-- one FASTA-style decoy (its own key) and three targets, all with score 1 -/
def tiePsms : List (Psm Nat Nat Nat) :=
  [⟨0, true, 0, 1⟩, ⟨1, false, 1, 1⟩, ⟨2, false, 2, 1⟩, ⟨3, false, 3, 1⟩]

/-- two iteration orders of the same competition map -/
def tieEs : List (Nat × Comp Nat Nat) := competition 0 tiePsms
def tieEs' : List (Nat × Comp Nat Nat) := (competition 0 tiePsms).rotate 1

theorem tie_rows' : rowsOf tieEs' = [⟨1, false, 1⟩, ⟨2, false, 1⟩, ⟨3, false, 1⟩, ⟨0, true, 1⟩] := by decide +kernel

section
variable [LinearOrder σ]

/-- **C13.q_range_rows** — every q-value produced by the two passes lies in (0, 1], for any non-negative
    increments (posterior error probabilities for peptides/proteins, decoy counts for precursors). -/
theorem q_range_rows (inc : Row ι σ → ℚ) (hinc : ∀ r, 0 ≤ inc r) (thr : ℚ) (rows : List (Row ι σ)) :
    ∀ rq ∈ (assignRows inc castQ 1 thr rows).1, 0 < rq.2 ∧ rq.2 ≤ 1 :=
  -- the running `decoy` sum stays positive, so every ratio is; `q_min` starts at 1 and only decreases
  (cummin_forall (1 : ℚ) (fun q => 0 < q ∧ q ≤ 1) ⟨one_pos, le_rfl⟩ _ fun e he m hm =>
    ⟨qmin_pos hm.1 (fwdPass_forall inc castQ (0 < ·)
        (fun _ r hd => add_pos_of_pos_of_nonneg hd (hinc r))
        (fun _ _ hd ht => div_pos hd (Nat.cast_pos.mpr (Nat.pos_of_ne_zero ht))) 1 0 _ one_pos e he),
      (qmin_le m e.2).trans hm.2⟩).2

/-- **C13.q_range** — every peptide- or protein-level q-value handed back to a PSM lies in (0, 1], given
    `0 ≤ pep`; for every PSM list and every iteration order `es` of the competition map. -/
theorem q_range (pep : σ → ℚ) (hpep : ∀ s, 0 ≤ pep s) (thr : ℚ)
    (es : List (κ × Comp ι σ)) (psms : List (Psm κ ι σ)) (qs : List ℚ) (n : Nat)
    (h : pickedWith pep castQ 1 thr es psms = some (qs, n)) : ∀ q ∈ qs, 0 < q ∧ q ≤ 1 := by
  obtain ⟨-, Q, rfl, hQ⟩ := pickedWith_eq_some h
  intro q hq
  obtain ⟨p, hp, rfl⟩ := List.mem_map.mp hq
  obtain ⟨r, hmem, -⟩ := lookupQ_mem (hQ p hp)
  exact q_range_rows (fun r => pep r.score) (fun r => hpep r.score) thr _ _ hmem

/-- **C13.q_range_precursor** — every MS1-peak q-value lies in (0, 1]. -/
theorem q_range_precursor (thr : ℚ) (peaks : List (Row ι σ)) :
    ∀ rq ∈ (pickedPrecursor castQ 0 1 thr peaks).1, 0 < rq.2 ∧ rq.2 ≤ 1 :=
  q_range_rows _ (fun r => by split <;> norm_num) thr peaks

/-- no order laws on the index type: the protein level uses this at `String` -/
theorem same_entity_same_q_gen {κ' ι' : Type} [DecidableEq ι'] [LE ι'] [DecidableLE ι'] (pep : σ → ℚ) (thr : ℚ)
    (es : List (κ' × Comp ι' σ)) (psms : List (Psm κ' ι' σ)) (qs : List ℚ) (n : Nat)
    (h : pickedWith pep castQ 1 thr es psms = some (qs, n)) (i j : Nat) (pi pj : Psm κ' ι' σ)
    (hi : psms[i]? = some pi) (hj : psms[j]? = some pj) (hix : pi.ix = pj.ix) :
    qs[i]? = qs[j]? ∧ (qs[i]?).isSome := by
  obtain ⟨-, Q, rfl, -⟩ := pickedWith_eq_some h
  rw [List.getElem?_map, List.getElem?_map, hi, hj, Option.map_some, Option.map_some, hix]
  exact ⟨rfl, rfl⟩

/-- **C13.same_entity_same_q** — two PSMs that store the same index (the same peptide; the same protein
    group string) receive the same q-value. -/
theorem same_entity_same_q (pep : σ → ℚ) (thr : ℚ)
    (es : List (κ × Comp ι σ)) (psms : List (Psm κ ι σ)) (qs : List ℚ) (n : Nat)
    (h : pickedWith pep castQ 1 thr es psms = some (qs, n)) (i j : Nat) (pi pj : Psm κ ι σ)
    (hi : psms[i]? = some pi) (hj : psms[j]? = some pj) (hix : pi.ix = pj.ix) :
    qs[i]? = qs[j]? ∧ (qs[i]?).isSome :=
  same_entity_same_q_gen pep thr es psms qs n h i j pi pj hi hj hix

/-- **C13.q_antitone_rows** — in the table produced by the sort and the two passes, a row with a strictly
    higher score never has a larger q-value (ties or not, any increments). -/
theorem q_antitone_rows (inc : Row ι σ → ℚ) (thr : ℚ) (rows : List (Row ι σ)) :
    ∀ a ∈ (assignRows inc castQ 1 thr rows).1, ∀ b ∈ (assignRows inc castQ 1 thr rows).1,
      b.1.score < a.1.score → a.2 ≤ b.2 :=
  -- the table is sorted by score, descending, with non-decreasing q: a strictly higher score comes first
  List.Pairwise.forall_of_forall_of_flip (fun _ _ h => (lt_irrefl _ h).elim)
    ((tab_pairwise inc thr rows).imp fun h _ => h.2)
    ((tab_pairwise inc thr rows).imp fun h hlt => (not_le.mpr hlt h.1).elim)

/-- **C13.q_antitone_precursor** — an MS1 peak with a strictly higher score never has a larger q-value. -/
theorem q_antitone_precursor (thr : ℚ) (peaks : List (Row ι σ)) :
    ∀ a ∈ (pickedPrecursor castQ 0 1 thr peaks).1, ∀ b ∈ (pickedPrecursor castQ 0 1 thr peaks).1,
      b.1.score < a.1.score → a.2 ≤ b.2 :=
  q_antitone_rows _ thr peaks

/-- **C13.passing_count_rows** — the returned count is the number of target rows whose q-value is at or
    below the threshold (decoy rows are not counted). -/
theorem passing_count_rows (inc : Row ι σ → ℚ) (thr : ℚ) (rows : List (Row ι σ)) :
    (assignRows inc castQ 1 thr rows).2 =
      ((assignRows inc castQ 1 thr rows).1.filter fun rq => decide (rq.2 ≤ thr) && !rq.1.decoy).length := rfl

/-- every input row appears exactly once in the table -/
theorem tab_rows_perm (inc : Row ι σ → ℚ) (thr : ℚ) (rows : List (Row ι σ)) :
    ((assignRows inc castQ 1 thr rows).1.map (·.1)).Perm rows :=
  tab_perm inc castQ 1 thr rows

theorem q_antitone_mem [DecidableEq κ] {bot : σ} {pep : σ → ℚ} {thr : ℚ} {psms : List (Psm κ ι σ)} (hc : Canon psms)
    {es : List (κ × Comp ι σ)} (hes : es.Perm (competition bot psms)) {p p' : Psm κ ι σ} {q q' : ℚ}
    (hq : lookupQ (assignQ pep castQ 1 thr es).1 p.ix = some q)
    (hq' : lookupQ (assignQ pep castQ 1 thr es).1 p'.ix = some q')
    (hlt : best bot psms p'.ix < best bot psms p.ix) : q ≤ q' := by
  obtain ⟨r, hr, hrx⟩ := lookupQ_mem hq
  obtain ⟨r', hr', hrx'⟩ := lookupQ_mem hq'
  refine q_antitone_rows (fun r => pep r.score) thr (rowsOf es) (r, q) hr (r', q') hr' ?_
  -- a row of the table carries the best score of its entity
  rw [((mem_tab_iff bot pep castQ 1 thr hc hes r).mp ⟨q, hr⟩).2, ((mem_tab_iff bot pep castQ 1 thr hc hes r').mp ⟨q', hr'⟩).2,
    hrx, hrx']
  exact hlt

/-- **C13.q_antitone** — an entity (peptide / protein group) whose best score is strictly higher never
    receives a larger q-value than one whose best score is lower. For every PSM list over a canonical
    database, every `pep`, every iteration order `es` of the competition map, ties or not. -/
theorem q_antitone [DecidableEq κ] (bot : σ) (pep : σ → ℚ) (thr : ℚ)
    (psms : List (Psm κ ι σ)) (hc : Canon psms)
    (es : List (κ × Comp ι σ)) (hes : es.Perm (competition bot psms)) (qs : List ℚ) (n : Nat)
    (h : pickedWith pep castQ 1 thr es psms = some (qs, n)) (i j : Nat) (pi pj : Psm κ ι σ)
    (hi : psms[i]? = some pi) (hj : psms[j]? = some pj)
    (hlt : best bot psms pj.ix < best bot psms pi.ix) :
    ∃ qi qj, qs[i]? = some qi ∧ qs[j]? = some qj ∧ qi ≤ qj := by
  obtain ⟨-, Q, rfl, hQ⟩ := pickedWith_eq_some h
  exact ⟨Q pi.ix, Q pj.ix, by rw [List.getElem?_map, hi]; rfl, by rw [List.getElem?_map, hj]; rfl,
    q_antitone_mem hc hes (hQ pi (List.mem_of_getElem? hi)) (hQ pj (List.mem_of_getElem? hj)) hlt⟩

/-- **C13.competition_order_free** — the competition map (which keys, and for each key the best forward
    and reverse score and the stored indices) does not depend on the order in which the PSMs are
    supplied: the two maps have the same entries (as lists: up to a permutation). -/
theorem competition_order_free [DecidableEq κ] (bot : σ) (psms psms' : List (Psm κ ι σ))
    (hp : psms.Perm psms') (hc : Canon psms) :
    (competition bot psms).Perm (competition bot psms') := by
  rw [List.perm_ext_iff_of_nodup (nodup_competition bot psms).of_map (nodup_competition bot psms').of_map]
  rintro ⟨k, c⟩
  simp only [mem_competition, compOf_perm bot hp hc k, hp.mem_iff]

/-- **C13.order_invariant** — the whole result of `assign_q_value` (every entity's q-value and the passing
    count) is the same for every supply order of the PSMs and every iteration order of the two hash
    maps, ties included: the sort key (score, decoy flag, entity index) is total on rows. Exact arithmetic
    ("beyond rounding" in the property text), and `pep` is the same function of the score on both sides:
    that the fitted estimator does not depend on the order of its sample is assumed (property C14). -/
theorem order_invariant [DecidableEq κ] (bot : σ) (pep : σ → ℚ) (thr : ℚ)
    (psms psms' : List (Psm κ ι σ)) (hp : psms.Perm psms') (hc : Canon psms)
    (es es' : List (κ × Comp ι σ)) (hes : es.Perm (competition bot psms))
    (hes' : es'.Perm (competition bot psms')) :
    assignQ pep castQ 1 thr es = assignQ pep castQ 1 thr es' :=
  assignRows_perm _ castQ 1 thr (List.Perm.flatMap_right _
    (hes.trans ((competition_order_free bot psms psms' hp hc).trans hes'.symm)))

/-- **C13.order_invariant_under_ties** — the witness that separated two iteration orders before /repo 1f05eb8
    (one decoy and three targets, all with score 1, `pep = 1/4`: under the score-only sort the decoy handed out
    first gave q = 2/3 everywhere, handed out last it gave the targets 7/12; the real code showed the same
    dependence, see corpus/C13/fixed-order-dependent-under-ties.req) gives the same table for both orders under
    the three-part key: the decoy is sorted first. -/
theorem order_invariant_under_ties :
    tieEs ≠ tieEs' ∧ ¬ ((rowsOf (competition 0 tiePsms)).map (·.score)).Nodup ∧
    assignQ (fun _ => (1/4 : ℚ)) castQ 1 (1/100) tieEs = assignQ (fun _ => (1/4 : ℚ)) castQ 1 (1/100) tieEs' ∧
    (assignQ (fun _ => (1/4 : ℚ)) castQ 1 (1/100) tieEs').1.map (·.2) = [2/3, 2/3, 2/3, 2/3] := by
  have h := order_invariant 0 (fun _ => (1/4 : ℚ)) (1/100) tiePsms tiePsms (List.Perm.refl _)
    (by unfold Canon; decide +kernel) tieEs tieEs' (List.Perm.refl _) (by decide +kernel)
  refine ⟨by decide +kernel, by decide +kernel, h, ?_⟩
  have hr : rowsOf tieEs = [⟨0, true, 1⟩, ⟨1, false, 1⟩, ⟨2, false, 1⟩, ⟨3, false, 1⟩] := by decide +kernel
  rw [← h]
  unfold assignQ assignRows
  rw [hr, sortRows_of_sorted (by decide +kernel)]
  decide +kernel

/-- **C13.order_invariant_precursor** — MS1-peak q-values and the passing count do not depend on the
    order in which the peaks are stored / iterated, ties included. -/
theorem order_invariant_precursor (thr : ℚ) (peaks peaks' : List (Row ι σ)) (hp : peaks.Perm peaks') :
    pickedPrecursor castQ 0 1 thr peaks = pickedPrecursor castQ 0 1 thr peaks' :=
  assignRows_perm _ castQ 1 thr hp

end

section
variable [DecidableEq κ] [LinearOrder σ]

def entityPasses (tab : List (Row ι σ × ℚ)) (thr : ℚ) (ix : ι) : Bool :=
  match lookupQ tab ix with
  | some q => decide (q ≤ thr)
  | none => false

/-- **C13.passing_count** — the returned count is the number of distinct *target* entities (peptides /
    protein groups hit by at least one target PSM) whose q-value is at or below the threshold. -/
theorem passing_count (bot : σ) (pep : σ → ℚ) (thr : ℚ) (psms : List (Psm κ ι σ)) (hc : Canon psms)
    (es : List (κ × Comp ι σ)) (hes : es.Perm (competition bot psms)) (qs : List ℚ) (n : Nat)
    (h : pickedWith pep castQ 1 thr es psms = some (qs, n)) :
    n = ((targetEntities psms).filter (entityPasses (assignQ pep castQ 1 thr es).1 thr)).length := by
  rw [(pickedWith_eq_some h).1, ← ((target_rows_entities bot pep castQ 1 thr hc hes).filter _).length_eq,
    List.filter_map, List.length_map, List.filter_filter]
  -- both sides filter the table: a target row passes iff the look-up of its index does
  refine congrArg List.length (List.filter_congr fun rq hm => ?_)
  simp only [Function.comp, entityPasses, lookupQ_of_mem (tab_ix_nodup bot pep castQ 1 thr hc hes) hm]

/-- **C13.model_meets_spec** — the executable checker that the driver applies to the implementation's
    output (`specVerdict`: length, range, same entity, antitone, count) accepts the model's output, so a
    `bad:` verdict on the implementation's output is a statement about the implementation. -/
theorem model_meets_spec (bot : σ) (pep : σ → ℚ) (hpep : ∀ s, 0 ≤ pep s) (thr : ℚ)
    (psms : List (Psm κ ι σ)) (hc : Canon psms)
    (es : List (κ × Comp ι σ)) (hes : es.Perm (competition bot psms)) (qs : List ℚ) (n : Nat)
    (h : pickedWith pep castQ 1 thr es psms = some (qs, n)) :
    specVerdict bot (0 : ℚ) 1 thr psms qs n = "ok" := by
  have hrange := q_range pep hpep thr es psms qs n h
  have hcount := passing_count bot pep thr psms hc es hes qs n h
  obtain ⟨-, Q, rfl, hQ⟩ := pickedWith_eq_some h
  have hzip := (List.map_prod_left_eq_zip (l := psms) (f := fun p => Q p.ix)).symm
  refine specVerdict_ok (List.length_map _) ?_ ?_ ?_ ?_
  · simp only [specRange, List.all_eq_true, Bool.and_eq_true, decide_eq_true_eq]
    exact hrange
  · simp only [specSame, hzip, List.all_eq_true, List.mem_map, Bool.or_eq_true, Bool.and_eq_true,
      decide_eq_true_eq]
    rintro _ ⟨p, _, rfl⟩ _ ⟨p', _, rfl⟩
    exact (ne_or_eq p.ix p'.ix).imp_right fun e : p.ix = p'.ix => e ▸ ⟨le_rfl, le_rfl⟩
  · simp only [specAnti, hzip, List.map_map, List.all_eq_true, List.mem_map, Bool.or_eq_true,
      decide_eq_true_eq, Function.comp]
    rintro _ ⟨p, hp, rfl⟩ _ ⟨p', hp', rfl⟩
    exact (le_or_gt _ _).imp_right (q_antitone_mem hc hes (hQ p hp) (hQ p' hp'))
  · rw [hcount, specCount, hzip]
    refine congrArg List.length (List.filter_congr fun ix hix => ?_)
    -- the first PSM of a target entity exists, and its q is the table's q of the entity
    obtain ⟨p0, hp0, -, rfl⟩ := (mem_targetEntities psms ix).mp hix
    rw [List.find?_map]
    generalize hf : psms.find? _ = o
    cases o with
    | none => exact absurd (List.find?_eq_none.mp hf p0 hp0) (by simp)
    | some p =>
      have hpx : p.ix = p0.ix := by simpa using List.find?_some hf
      simp only [Option.map_some, entityPasses, ← hpx, hQ p (List.mem_of_find?_eq_some hf)]

/-- **C13.no_panic** — over a canonical database the index look-up `scores[&ix]` at the end of
    `picked_peptide` / `picked_protein` never fails: every PSM gets a q-value (the model's `none`, the
    code's panic, needs two entries with the same key and decoy flag but different indices). -/
theorem no_panic (bot : σ) (pep : σ → ℚ) (thr : ℚ) (psms : List (Psm κ ι σ)) (hc : Canon psms)
    (es : List (κ × Comp ι σ)) (hes : es.Perm (competition bot psms)) :
    ∃ qs n, pickedWith pep castQ 1 thr es psms = some (qs, n) := by
  unfold pickedWith
  rw [if_pos]
  · exact ⟨_, _, rfl⟩
  · rw [List.all_eq_true]
    intro p hp
    -- the entity of `p` has a row in the competition, hence in the table
    obtain ⟨q, hm⟩ := (mem_tab_iff bot pep castQ 1 thr hc hes ⟨p.ix, p.decoy, best bot psms p.ix⟩).mpr
      ⟨⟨p, hp, rfl, rfl⟩, rfl⟩
    unfold lookupQ
    rw [Option.isSome_map, List.find?_isSome]
    exact ⟨_, List.mem_reverse.mpr hm, decide_eq_true rfl⟩

end

/-- exact rationals plus one non-finite element: `none` = NaN -/
def NQ := Option ℚ

namespace NQ
def nan : NQ := none
def of (x : ℚ) : NQ := some x
/-- IEEE `+`: NaN is absorbing -/
def add : NQ → NQ → NQ
  | some a, some b => some (a + b)
  | _, _ => none
/-- IEEE `/` with a positive finite divisor (the only divisors the code uses here: `target ≥ 1`); NaN is absorbing -/
def div : NQ → NQ → NQ
  | some a, some b => some (a / b)
  | _, _ => none
/-- IEEE `<=`: false as soon as one side is NaN -/
def le : NQ → NQ → Prop
  | some a, some b => a ≤ b
  | _, _ => False
instance : DecidableEq NQ := inferInstanceAs (DecidableEq (Option ℚ))
instance : Add NQ := ⟨add⟩
instance : Div NQ := ⟨div⟩
instance : LE NQ := ⟨le⟩
instance : DecidableLE NQ
  | some a, some b => inferInstanceAs (Decidable (a ≤ b))
  | none, _ => isFalse (fun h => h)
  | some _, none => isFalse (fun h => h)
/-- `usize as f32` -/
def cast (n : Nat) : NQ := of (n : ℚ)

@[simp] theorem add_some (a b : ℚ) : (of a) + (of b) = of (a + b) := rfl
@[simp] theorem add_nan (a : NQ) : a + nan = nan := by cases a <;> rfl
@[simp] theorem nan_add (a : NQ) : nan + a = nan := rfl
@[simp] theorem nan_div (a : NQ) : nan / a = nan := rfl
@[simp] theorem div_some (a b : ℚ) : (of a) / (of b) = of (a / b) := rfl
@[simp] theorem le_some (a b : ℚ) : (of a ≤ of b) ↔ a ≤ b := Iff.rfl
@[simp] theorem nan_le (a : NQ) : ¬ (nan ≤ a) := fun h => h
@[simp] theorem le_nan (a : NQ) : ¬ (a ≤ nan) := by cases a <;> exact fun h => h
end NQ

section nanPep
open NQ

theorem cummin_fwdPass_nan (inc : Row ι σ → NQ) {l : List (Row ι σ)} (h : ∀ r rs, l = r :: rs → inc r = nan) :
    cummin (of 1) (fwdPass inc NQ.cast (of 1) 0 l) = l.map fun r => (r, of 1) := by
  have hdead : ∀ e ∈ fwdPass inc NQ.cast (of 1) 0 l, ∀ y, e.2 = some y → y = nan := by
    cases l with
    | nil => exact fun _ he => absurd he List.not_mem_nil
    | cons r rs =>
      have : fwdPass inc NQ.cast (of 1) 0 (r :: rs) = fwdPass inc NQ.cast nan 0 (r :: rs) := by
        simp only [fwdPass, h r rs rfl, add_nan]
      rw [this]
      exact fwdPass_forall inc NQ.cast (· = nan) (fun _ _ hd => by rw [hd]; rfl)
        (fun _ _ hd _ => by rw [hd]; rfl) nan 0 _ rfl
  have hall : ∀ rq ∈ cummin (of 1) (fwdPass inc NQ.cast (of 1) 0 l), rq.2 = of 1 :=
    (cummin_forall (of 1) (· = of 1) rfl _ fun e he m hm => by
      subst hm
      cases hx : e.2 with
      | none => rfl
      | some y => rw [hdead e he y hx]; rfl).2
  conv_rhs => rw [← fwdPass_fst inc NQ.cast (of 1) 0 l, ← cummin_fst (of 1), List.map_map]
  exact (List.map_id _).symm.trans (List.map_congr_left fun rq hrq => Prod.ext rfl (hall rq hrq))

section
variable [LinearOrder σ]

/-- **C13.nan_first_row** — if the PEP of the best-scoring row is NaN, `decoy` is NaN from the first
    addition on, every `decoy / target` is NaN (or `+∞`), `q_min.min(NaN)` keeps `q_min`, and
    `assign_q_value` returns q = 1.0 for every row and a passing count of 0 (threshold below 1). -/
theorem nan_first_row (inc : Row ι σ → NQ) (thr : NQ) (hthr : ¬ (of 1 ≤ thr)) (rows : List (Row ι σ))
    (h : ∀ r rs, sortRows rows = r :: rs → inc r = nan) :
    assignRows inc NQ.cast (of 1) thr rows = ((sortRows rows).map fun r => (r, of 1), 0) := by
  unfold assignRows
  rw [cummin_fwdPass_nan inc h]
  refine Prod.ext rfl (List.length_eq_zero_iff.mpr (List.filter_eq_nil_iff.mpr fun rq hrq => ?_))
  obtain ⟨r, -, rfl⟩ := List.mem_map.mp hrq
  simp [hthr]

/-- **C13.nan_all** — when EVERY posterior error is NaN (what the KDE returns for a class with zero
    score variance: a single decoy, a single class, all scores equal — C14's known finding), every
    peptide- or protein-level q-value is 1.0 and the passing count is 0. -/
theorem nan_all (pep : σ → NQ) (hpep : ∀ s, pep s = nan) (thr : NQ) (hthr : ¬ (of 1 ≤ thr))
    {κ : Type} (es : List (κ × Comp ι σ)) :
    assignQ pep NQ.cast (of 1) thr es = ((sortRows (rowsOf es)).map fun r => (r, of 1), 0) :=
  nan_first_row _ thr hthr _ (fun r _ _ => hpep r.score)

/-- … and so does every PSM (`picked_peptide` / `picked_protein` output) -/
theorem nan_all_psms (pep : σ → NQ) (hpep : ∀ s, pep s = nan) (thr : NQ) (hthr : ¬ (of 1 ≤ thr))
    {κ : Type} (es : List (κ × Comp ι σ)) (psms : List (Psm κ ι σ)) (qs : List NQ) (n : Nat)
    (h : pickedWith pep NQ.cast (of 1) thr es psms = some (qs, n)) :
    n = 0 ∧ qs.length = psms.length ∧ ∀ q ∈ qs, q = of 1 := by
  obtain ⟨rfl, Q, rfl, hQ⟩ := pickedWith_eq_some h
  rw [nan_all pep hpep thr hthr es] at hQ ⊢
  refine ⟨rfl, List.length_map _, fun q hq => ?_⟩
  obtain ⟨p, hp, rfl⟩ := List.mem_map.mp hq
  obtain ⟨r, hm, -⟩ := lookupQ_mem (hQ p hp)
  obtain ⟨r', -, he⟩ := List.mem_map.mp hm
  exact (Prod.mk.inj he).2.symm

/-- **C13.q_range_nan** — with posterior errors that are NaN for SOME scores and non-negative otherwise,
    every q-value is still a number in (0, 1] (never NaN): `decoy` is positive until the first NaN and
    NaN afterwards, a NaN ratio never wins `q_min.min(..)`, and `q_min` starts at 1.0. -/
theorem q_range_nan (inc : Row ι σ → NQ) (hinc : ∀ r x, inc r = of x → 0 ≤ x) (thr : NQ) (rows : List (Row ι σ)) :
    ∀ rq ∈ (assignRows inc NQ.cast (of 1) thr rows).1, ∃ x, rq.2 = of x ∧ 0 < x ∧ x ≤ 1 := by
  -- the running `decoy` sum, and with it every ratio, is NaN or positive
  have hpos := fun l => fwdPass_forall inc NQ.cast (fun d => ∀ v, d = of v → 0 < v)
    (fun d r hd v hv => by
      rcases d with _ | a
      · cases hv
      · cases hi : inc r with
        | none => rw [hi] at hv; cases hv
        | some b =>
          rw [hi] at hv
          cases hv
          exact add_pos_of_pos_of_nonneg (hd a rfl) (hinc r b hi))
    (fun d t hd ht v hv => by
      rcases d with _ | a
      · cases hv
      · cases hv
        exact div_pos (hd a rfl) (Nat.cast_pos.mpr (Nat.pos_of_ne_zero ht)))
    (of 1) 0 l (fun v hv => by cases hv; exact one_pos)
  refine (cummin_forall (of 1) (fun q => ∃ x, q = of x ∧ 0 < x ∧ x ≤ 1) ⟨1, rfl, one_pos, le_rfl⟩ _
    fun e he m ⟨x, hm, h0, h1⟩ => ?_).2
  subst hm
  -- only a finite ratio at or below `q_min` replaces it
  cases hy : e.2 with
  | none => exact ⟨x, rfl, h0, h1⟩
  | some y =>
    rcases y with _ | v
    · exact ⟨x, rfl, h0, h1⟩
    · by_cases hle : v ≤ x
      · exact ⟨v, if_pos hle, hpos _ e he _ hy v rfl, hle.trans h1⟩
      · exact ⟨x, if_neg hle, h0, h1⟩

end

end nanPep

section dbLevel
variable [LinearOrder σ]

/-- `pepPsms` and `protPsms` both unfold to this `if` -/
theorem ite_all_eq_some {β γ : Type} {P : β → Bool} {F : β → γ} {l : List β} {out : List γ}
    (h : (if l.all P then some (l.map F) else none) = some out) : (∀ x ∈ l, P x = true) ∧ out = l.map F := by
  split at h
  · exact ⟨List.all_eq_true.mp ‹_›, (Option.some.inj h).symm⟩
  · cases h

/-- **C13.picked_peptide_same_peptide** — `picked_peptide`: all PSMs of one peptide (same `peptide_idx`)
    receive the same `peptide_q`, whatever their scores and positions in the list. -/
theorem picked_peptide_same_peptide (bot : σ) (pep : σ → ℚ) (thr : ℚ) (gd : Bool) (peps : List Pep)
    (feats : List (Nat × σ)) (qs : List ℚ) (n : Nat)
    (h : pickedPeptide bot pep castQ 1 thr gd peps feats = some (qs, n))
    (i j : Nat) (fi fj : Nat × σ) (hi : feats[i]? = some fi) (hj : feats[j]? = some fj)
    (hsame : fi.1 = fj.1) : qs[i]? = qs[j]? ∧ (qs[i]?).isSome := by
  obtain ⟨psms, hp, h⟩ := Option.bind_eq_some_iff.mp h
  obtain ⟨-, rfl⟩ := ite_all_eq_some hp
  exact same_entity_same_q_gen pep thr _ _ qs n h i j _ _ (by rw [List.getElem?_map, hi]; rfl)
    (by rw [List.getElem?_map, hj]; rfl) hsame

/-- **C13.picked_protein_same_group** — `picked_protein`: all PSMs whose peptides render the same protein
    group string (`Peptide::proteins(decoy_tag, generate_decoys)`, the value written to the results)
    receive the same `protein_q` — PSMs of different peptides of the group included. -/
theorem picked_protein_same_group (bot : σ) (pep : σ → ℚ) (thr : ℚ) (gd : Bool) (tag : String)
    (peps : List Pep) (feats : List (Nat × σ)) (qs : List ℚ) (n : Nat)
    (h : pickedProtein bot pep castQ 1 thr gd tag peps feats = some (qs, n))
    (i j : Nat) (fi fj : Nat × σ) (hi : feats[i]? = some fi) (hj : feats[j]? = some fj)
    (hsame : (peps.getD fi.1 default).proteinStr tag gd = (peps.getD fj.1 default).proteinStr tag gd) :
    qs[i]? = qs[j]? ∧ (qs[i]?).isSome := by
  obtain ⟨psms, hp, h⟩ := Option.bind_eq_some_iff.mp h
  obtain ⟨-, rfl⟩ := ite_all_eq_some hp
  exact same_entity_same_q_gen pep thr _ _ qs n h i j _ _ (by rw [List.getElem?_map, hi]; rfl)
    (by rw [List.getElem?_map, hj]; rfl) hsame

/-- in particular: same protein list and same decoy flag ⇒ same protein-level q-value -/
theorem picked_protein_same_list (bot : σ) (pep : σ → ℚ) (thr : ℚ) (gd : Bool) (tag : String)
    (peps : List Pep) (feats : List (Nat × σ)) (qs : List ℚ) (n : Nat)
    (h : pickedProtein bot pep castQ 1 thr gd tag peps feats = some (qs, n))
    (i j : Nat) (fi fj : Nat × σ) (hi : feats[i]? = some fi) (hj : feats[j]? = some fj)
    (hprots : (peps.getD fi.1 default).prots = (peps.getD fj.1 default).prots)
    (hdecoy : (peps.getD fi.1 default).decoy = (peps.getD fj.1 default).decoy) :
    qs[i]? = qs[j]? ∧ (qs[i]?).isSome :=
  picked_protein_same_group bot pep thr gd tag peps feats qs n h i j fi fj hi hj
    (by simp only [Pep.proteinStr, hprots, hdecoy])

/-- A database is canonical at the peptide level when no two entries have the same string and decoy flag
    (what `reorder_peptides` + C08 provide). Then every PSM list over it satisfies `Canon`, the
    hypothesis of `q_antitone`, `passing_count`, `order_invariant`, `model_meets_spec`. -/
theorem canon_of_db (gd : Bool) (peps : List Pep)
    (hdb : ∀ a b, a < peps.length → b < peps.length →
      pepKey gd (peps.getD a default) = pepKey gd (peps.getD b default) →
      (peps.getD a default).decoy = (peps.getD b default).decoy → a = b)
    (feats : List (Nat × σ)) (psms : List (Psm PepKey Nat σ)) (h : pepPsms gd peps feats = some psms) :
    Canon psms := by
  obtain ⟨hlt, rfl⟩ := ite_all_eq_some h
  intro p hp q hq
  obtain ⟨f, hf, rfl⟩ := List.mem_map.mp hp
  obtain ⟨g, hg, rfl⟩ := List.mem_map.mp hq
  exact ⟨fun ⟨hk, hd⟩ => hdb _ _ (of_decide_eq_true (hlt f hf)) (of_decide_eq_true (hlt g hg)) hk hd,
    fun e : f.1 = g.1 => e ▸ ⟨rfl, rfl⟩⟩

/-- the same at the protein level: canonical = the protein-group string determines protein list and decoy
    flag (no `;` inside names, no target list that renders like a tagged decoy list) -/
theorem canon_of_db_protein (gd : Bool) (tag : String) (peps : List Pep)
    (hdb : ∀ a b, a < peps.length → b < peps.length →
      (peps.getD a default).proteinStr tag gd = (peps.getD b default).proteinStr tag gd →
      (peps.getD a default).prots = (peps.getD b default).prots ∧
      (peps.getD a default).decoy = (peps.getD b default).decoy)
    (feats : List (Nat × σ)) (psms : List (Psm (List String) String σ))
    (h : protPsms gd tag peps feats = some psms) : Canon psms := by
  obtain ⟨hlt, rfl⟩ := ite_all_eq_some h
  intro p hp q hq
  obtain ⟨f, hf, rfl⟩ := List.mem_map.mp hp
  obtain ⟨g, hg, rfl⟩ := List.mem_map.mp hq
  simp only
  exact ⟨fun ⟨hk, hd⟩ => by simp only [Pep.proteinStr, hk, hd],
    hdb _ _ (of_decide_eq_true (hlt f hf)) (of_decide_eq_true (hlt g hg))⟩

end dbLevel

end theory

/-- non-vacuity of `q_range_rows`: the worked example's table (five rows, q-values 1/2 and 2/3) -/
example : ∀ rq ∈ (assignQ exPep castQ 1 (1/2) (competition 0 exPsms)).1, 0 < rq.2 ∧ rq.2 ≤ 1 :=
  q_range_rows _ (fun r => exPep_nonneg r.score) _ _

/-- non-vacuity of `q_range`: the worked example (six PSMs) -/
example : ∀ q ∈ [(1/2 : ℚ), 1/2, 1/2, 1/2, 2/3, 2/3], 0 < q ∧ q ≤ 1 :=
  q_range exPep exPep_nonneg (1/2) _ exPsms _ 2 ex_result

/-- a test vector for `pickedPrecursor`: T D T at scores 3, 2, 1 gives q = 1, 1, 1 (first ratio 1/1, then 2/1, 2/2) -/
example : (pickedPrecursor (ι := Nat) (σ := Nat) castQ 0 1 (1/20) [⟨0, false, 3⟩, ⟨1, true, 2⟩, ⟨2, false, 1⟩]).1.map (·.2)
    = [1, 1, 1] := by
  unfold pickedPrecursor assignRows
  rw [sortRows_of_sorted (by decide +kernel)]
  decide +kernel

/-- non-vacuity of `same_entity_same_q`: PSMs 2 and 3 of the worked example hit the same peptide (index 2) -/
example : ([(1/2 : ℚ), 1/2, 1/2, 1/2, 2/3, 2/3])[2]? = ([(1/2 : ℚ), 1/2, 1/2, 1/2, 2/3, 2/3])[3]? ∧
    (([(1/2 : ℚ), 1/2, 1/2, 1/2, 2/3, 2/3])[2]?).isSome :=
  same_entity_same_q exPep (1/2) _ exPsms _ 2 ex_result 2 3 ⟨1, false, 2, 7⟩ ⟨1, false, 2, 5⟩ rfl rfl rfl

/-- non-vacuity of `q_antitone_rows`: the row with score 7 (q = 1/2) against the row with score 4 (q = 2/3) -/
example : (1/2 : ℚ) ≤ 2/3 := by
  have htab : (assignRows (fun r => exPep r.score) castQ 1 (1/2) (rowsOf (competition 0 exPsms))).1 = _ :=
    congrArg Prod.fst ex_assign
  exact q_antitone_rows (fun r => exPep r.score) (1/2) (rowsOf (competition 0 exPsms))
    (⟨2, false, 7⟩, 1/2) (by rw [htab]; decide +kernel) (⟨3, true, 4⟩, 2/3) (by rw [htab]; decide +kernel)
    (by decide)

example : (assignQ exPep castQ 1 (1/2) (competition 0 exPsms)).2 = 2 := by
  rw [ex_assign]

/-- non-vacuity of `q_antitone`: PSM 0 (peptide 0, best score 9) against PSM 5 (peptide 4, best score 2) of the worked example -/
example : ∃ qi qj, ([(1/2 : ℚ), 1/2, 1/2, 1/2, 2/3, 2/3])[0]? = some qi ∧
    ([(1/2 : ℚ), 1/2, 1/2, 1/2, 2/3, 2/3])[5]? = some qj ∧ qi ≤ qj :=
  q_antitone 0 exPep (1/2) exPsms ex_canon _ (List.Perm.refl _) _ 2 ex_result 0 5 _ _ rfl rfl (by decide)

/-- non-vacuity of `competition_order_free`: in reverse order the entries come out in another order -/
example : (competition 0 exPsms).Perm (competition 0 exPsms.reverse) ∧
    competition 0 exPsms ≠ competition 0 exPsms.reverse :=
  ⟨competition_order_free 0 _ _ (List.reverse_perm _).symm ex_canon, by decide +kernel⟩

/-- non-vacuity of `order_invariant`: the worked example supplied in reverse order -/
example : assignQ exPep castQ 1 (1/2) (competition 0 exPsms) =
    assignQ exPep castQ 1 (1/2) (competition 0 exPsms.reverse) :=
  order_invariant 0 exPep (1/2) exPsms exPsms.reverse (List.reverse_perm _).symm ex_canon _ _
    (List.Perm.refl _) (List.Perm.refl _)

/-- non-vacuity of `order_invariant_precursor`: a decoy and two targets, all with score 5, in two orders: q = 1, 1, 1 both times
    (under a score-only sort the second order gave the targets 1/2) -/
example : pickedPrecursor (ι := Nat) (σ := Nat) castQ 0 1 (1/20) [⟨1, false, 5⟩, ⟨2, false, 5⟩, ⟨0, true, 5⟩] =
    pickedPrecursor castQ 0 1 (1/20) [⟨0, true, 5⟩, ⟨1, false, 5⟩, ⟨2, false, 5⟩] :=
  order_invariant_precursor _ _ _ (by decide)

/-- a test vector for `target_decoy_one_key`: the generated decoy PEDITPEK of PEPTIDEK (a mark on position 2) is filed under
    PEPTIDEK's key -/
example : pepKey true (Pep.reverse ⟨false, [80, 69, 80, 84, 73, 68, 69, 75], [0, 0, 7, 0, 0, 0, 0, 0], none, none, ["P1"]⟩)
    = (none, [(80, 0), (69, 0), (80, 7), (84, 0), (73, 0), (68, 0), (69, 0), (75, 0)], none) ∧
    (Pep.reverse ⟨false, [80, 69, 80, 84, 73, 68, 69, 75], [0, 0, 7, 0, 0, 0, 0, 0], none, none, ["P1"]⟩).seq
    = [80, 69, 68, 73, 84, 80, 69, 75] := by decide +kernel

/-- non-vacuity of `passing_count`: in the worked example two of the three target entities (peptides 0 and 2, not 4) pass at 1/2 -/
example : (2 : Nat) = ((targetEntities exPsms).filter
    (entityPasses (assignQ exPep castQ 1 (1/2) (competition 0 exPsms)).1 (1/2))).length :=
  passing_count 0 exPep (1/2) exPsms ex_canon _ (List.Perm.refl _) _ 2 ex_result

/-- non-vacuity of `model_meets_spec`: the checker accepts the worked example's result … -/
example : specVerdict 0 (0 : ℚ) 1 (1/2) exPsms [1/2, 1/2, 1/2, 1/2, 2/3, 2/3] 2 = "ok" :=
  model_meets_spec 0 exPep exPep_nonneg (1/2) exPsms ex_canon _ (List.Perm.refl _) _ 2 ex_result

/-- … and is not vacuous: it rejects a wrong count, a q-value of 0 and an inverted pair -/
example : specVerdict 0 (0 : ℚ) 1 (1/2) exPsms [1/2, 1/2, 1/2, 1/2, 2/3, 2/3] 3 = "bad:count" ∧
    specVerdict 0 (0 : ℚ) 1 (1/2) exPsms [0, 1/2, 1/2, 1/2, 2/3, 2/3] 2 = "bad:range" ∧
    specVerdict 0 (0 : ℚ) 1 (1/2) exPsms [1/2, 1/2, 1/2, 1/3, 2/3, 2/3] 2 = "bad:same_entity" ∧
    specVerdict 0 (0 : ℚ) 1 (1/2) exPsms [1, 1/2, 1/2, 1/2, 2/3, 2/3] 1 = "bad:antitone" := by
  decide +kernel

section
open NQ

/-- a test vector for the situation of `q_range_nan`: T D T at scores 3, 2, 1 with PEP(3) = 0, PEP(2) = NaN, PEP(1) = 1/2:
    the first row gets 1/1, the others NaN; q = 1, 1, 1 -/
example : (assignRows (ι := Nat) (σ := Nat) (fun r => if r.score = 3 then of 0 else if r.score = 2 then nan else of (1/2))
    NQ.cast (of 1) (of (1/100)) [⟨0, false, 3⟩, ⟨1, true, 2⟩, ⟨2, false, 1⟩]) =
    ([(⟨0, false, 3⟩, of 1), (⟨1, true, 2⟩, of 1), (⟨2, false, 1⟩, of 1)], 0) := by
  unfold assignRows
  rw [sortRows_of_sorted (by decide +kernel)]
  decide +kernel

/-- … and with a value below 1: T T D at scores 3, 2, 1, PEP = 0, 0, NaN: q = 1/2, 1/2, 1 -/
example : (assignRows (ι := Nat) (σ := Nat) (fun r => if r.score = 1 then nan else of 0)
    NQ.cast (of 1) (of (1/2)) [⟨0, false, 3⟩, ⟨1, false, 2⟩, ⟨2, true, 1⟩]) =
    ([(⟨0, false, 3⟩, of (1/2)), (⟨1, false, 2⟩, of (1/2)), (⟨2, true, 1⟩, of 1)], 2) := by
  unfold assignRows
  rw [sortRows_of_sorted (by decide +kernel)]
  decide +kernel

/-- non-vacuity of `nan_all`: the worked example with a NaN estimator -/
example : (assignQ (fun _ : Nat => nan) NQ.cast (of 1) (of (1/100)) (competition 0 exPsms)).2 = 0 ∧
    (assignQ (fun _ : Nat => nan) NQ.cast (of 1) (of (1/100)) (competition 0 exPsms)).1.length = 5 := by
  rw [nan_all _ (fun _ => rfl) _ (by decide +kernel)]
  refine ⟨rfl, ?_⟩
  rw [List.length_map, sortRows, List.length_mergeSort, ex_rows]; rfl

end

/-- non-vacuity: a two-protein database with internal decoys; PSMs 0 and 2 hit the same peptide, PSMs 0 and 1
    different peptides of the same protein group "P1" -/
def exDb : List Pep :=
  [⟨false, [65, 67, 68, 75], [0, 0, 0, 0], none, none, ["P1"]⟩,
   ⟨false, [65, 69, 70, 75], [0, 0, 0, 0], none, none, ["P1"]⟩,
   ⟨true, [65, 68, 67, 75], [0, 0, 0, 0], none, none, ["P1"]⟩,
   ⟨false, [71, 72, 73, 75], [0, 0, 0, 0], none, none, ["P2"]⟩]

def exFeats : List (Nat × Nat) := [(0, 9), (1, 7), (0, 4), (2, 5), (3, 6)]

theorem exDb_canon (a b : Nat) (ha : a < exDb.length) (hb : b < exDb.length)
    (hk : pepKey true (exDb.getD a default) = pepKey true (exDb.getD b default))
    (hd : (exDb.getD a default).decoy = (exDb.getD b default).decoy) : a = b := by
  have h : ∀ a ∈ List.range 4, ∀ b ∈ List.range 4,
      pepKey true (exDb.getD a default) = pepKey true (exDb.getD b default) →
      (exDb.getD a default).decoy = (exDb.getD b default).decoy → a = b := by decide +kernel
  exact h a (List.mem_range.mpr ha) b (List.mem_range.mpr hb) hk hd

example : ((pepPsms true exDb exFeats).map (·.map (·.key))) =
    some [exDb[0].str, exDb[1].str, exDb[0].str, exDb[0].str, exDb[3].str] := by decide +kernel

example : ((protPsms true "rev_" exDb exFeats).map (·.map (·.ix))) =
    some ["P1", "P1", "P1", "rev_P1", "P2"] := by decide +kernel

example : ∃ psms, pepPsms true exDb exFeats = some psms ∧ Canon psms :=
  ⟨_, if_pos (by decide +kernel), canon_of_db true exDb exDb_canon exFeats _ (if_pos (by decide +kernel))⟩

/-- non-vacuity of `picked_peptide_same_peptide` (and of `no_panic`, `canon_of_db`): over `exDb` the call
    returns, and PSMs 0 and 2 (both of peptide 0, scores 9 and 4) get the same value -/
example : ∃ qs n, pickedPeptide 0 exPep castQ 1 (1/2) true exDb exFeats = some (qs, n) ∧ qs[0]? = qs[2]? := by
  have hps : pepPsms true exDb exFeats = some (exFeats.map fun f =>
      ⟨pepKey true (exDb.getD f.1 default), (exDb.getD f.1 default).decoy, f.1, f.2⟩) :=
    if_pos (by decide +kernel)
  obtain ⟨qs, n, hq⟩ := no_panic 0 exPep (1/2) _ (canon_of_db true exDb exDb_canon exFeats _ hps) _
    (List.Perm.refl _)
  have hq' : pickedPeptide 0 exPep castQ 1 (1/2) true exDb exFeats = some (qs, n) :=
    (congrArg (Option.bind · _) hps).trans hq
  exact ⟨qs, n, hq', (picked_peptide_same_peptide 0 exPep (1/2) true exDb exFeats qs n hq' 0 2 (0, 9) (0, 4)
    rfl rfl rfl).1⟩

/-- non-vacuity of `picked_protein_same_group`: PSMs 0 and 1 of `exFeats` hit different peptides of the
    protein group "P1" (same group string), while the generated decoy's string differs ("rev_P1"). That the
    call returns is not shown here: `no_panic` asks for a `LinearOrder` on the index type and is not
    instantiated at core `String`. -/
example : exFeats[0]? = some (0, 9) ∧ exFeats[1]? = some (1, 7) ∧
    (exDb.getD 0 default).proteinStr "rev_" true = (exDb.getD 1 default).proteinStr "rev_" true ∧
    (exDb.getD 0 default).proteinStr "rev_" true ≠ (exDb.getD 2 default).proteinStr "rev_" true ∧
    (protPsms true "rev_" exDb exFeats).isSome = true := by decide +kernel

end Sage.C13
