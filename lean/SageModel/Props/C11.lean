import SageModel.Model.C11
import Mathlib.Data.List.Basic
import Mathlib.Data.List.Nodup
import Mathlib.Data.List.Perm.Basic
import Mathlib.Data.List.Range
import Mathlib.Algebra.BigOperators.Group.List.Basic

/-!
# C11 — Search results do not depend on threads, scheduling or file batching

Property text: *For fixed inputs and configuration the PSMs produced by the search stage are
bit-identical whatever the number of worker threads, the interleaving of the work-stealing
scheduler and the way input files are batched, and they come out in input order; only the opaque
PSM identifiers may differ, and those are unique within a run.*

The theorems are about the abstract machines of `Model/C11.lean` and hold for every schedule
(any interleaving of `fetch_add`s), every splitting / reduction tree rayon may choose, every batch
size ≥ 1 and every list of files.  That the Rust atomics, rayon and `Scorer::score` refine those
machines is the modelling assumption, exercised (not proved) by the `search` / `batch`
correspondence ops.  The MS1 side (what reaches LFQ) is covered by the accumulator machine and by the
MS1 / TMT sections of the `batch` op's reply.

The second sentence of the property (*downstream statistics agree to within floating-point summation
error*) is only touched by `par_sum_any_tree` (exact sums are order-free) and by the `downstream` op,
which found a defect (`Kde::pdf` summed in parallel, amplified by the LDA) repaired in /repo
2c91348: see `corpus/C11/fixed-downstream-kde-sum-order.req`.
-/

namespace Sage.C11

theorem runFrom_nil (s : CState) : runFrom s [] = s := rfl
theorem runFrom_cons (s : CState) (t : Nat) (ts : List Nat) :
    runFrom s (t :: ts) = runFrom (s.step t) ts := rfl

theorem runFrom_append (s : CState) (a b : List Nat) :
    runFrom s (a ++ b) = runFrom (runFrom s a) b :=
  List.foldl_append ..

theorem runFrom_counter (s : CState) (sched : List Nat) :
    (runFrom s sched).counter = s.counter + sched.length := by
  induction sched generalizing s with
  | nil => rfl
  | cons t ts ih => rw [runFrom_cons, ih]; exact Nat.add_right_comm ..

theorem runFrom_handed (s : CState) (sched : List Nat) :
    (runFrom s sched).handed = (sched.zipIdx s.counter).reverse ++ s.handed := by
  induction sched generalizing s with
  | nil => rfl
  | cons t ts ih =>
    rw [runFrom_cons, ih, List.zipIdx_cons, List.reverse_cons, List.append_assoc]
    rfl

theorem runFrom_ids (s : CState) (sched : List Nat) :
    (runFrom s sched).handed.map Prod.snd =
      (List.range' s.counter sched.length).reverse ++ s.handed.map Prod.snd := by
  rw [runFrom_handed, List.map_append, List.map_reverse, List.zipIdx_map_snd]

theorem idsOf_sublist (h : List (Nat × Nat)) (t : Nat) : (idsOf h t).Sublist (h.reverse.map Prod.snd) :=
  List.filter_sublist.map _

theorem mem_idsOf {h : List (Nat × Nat)} {t i : Nat} (hi : i ∈ idsOf h t) : (t, i) ∈ h := by
  obtain ⟨⟨a, b⟩, hm, rfl⟩ := List.mem_map.mp hi
  obtain ⟨hm, ha⟩ := List.mem_filter.mp hm
  rwa [← eq_of_beq ha, ← List.mem_reverse]

theorem idsOf_length (s : CState) (sched : List Nat) (t : Nat) :
    (idsOf (runFrom s sched).handed t).length = (idsOf s.handed t).length + sched.count t := by
  unfold idsOf
  rw [runFrom_handed, List.reverse_append, List.reverse_reverse, List.filter_append, List.map_append,
    List.length_append, List.length_map, List.length_map]
  congr 1
  conv_rhs => rw [← List.zipIdx_map_fst s.counter sched, List.count, List.countP_map,
    List.countP_eq_length_filter]
  rfl

/-- "Those are unique within a run", for a search that runs after earlier searches in the same
process: from any state whose past ids are distinct and below the counter (the invariant of the
process-global `PSM_COUNTER`) every schedule keeps all ids, old and new, pairwise distinct. -/
theorem ids_unique_from (s : CState) (hnd : (s.handed.map Prod.snd).Nodup)
    (hlt : ∀ i ∈ s.handed.map Prod.snd, i < s.counter) (sched : List Nat) :
    ((runFrom s sched).handed.map Prod.snd).Nodup := by
  rw [runFrom_ids]
  refine (List.nodup_reverse.mpr List.nodup_range').append hnd fun a ha hb => ?_
  -- a new id is at least the old counter, an old one is below it
  exact Nat.lt_irrefl _ ((hlt a hb).trans_le (List.mem_range'_1.mp (List.mem_reverse.mp ha)).1)

example : ((runFrom { counter := 5, handed := [(9, 4), (9, 2)] } [0, 1, 0, 2]).handed.map Prod.snd)
    = [8, 7, 6, 5, 4, 2] := by decide +kernel

/-- "Those are unique within a run": for every schedule (any interleaving of the `fetch_add`s of any
number of scoring tasks) the PSM ids handed out are pairwise distinct. -/
theorem ids_unique (sched : List Nat) : ((runSchedule sched).handed.map Prod.snd).Nodup :=
  ids_unique_from {} List.nodup_nil (fun _ h => nomatch h) sched

example : (runSchedule [3, 1, 3, 3, 0, 1]).handed = [(1, 6), (0, 5), (3, 4), (3, 3), (1, 2), (3, 1)] := rfl

/-- For every schedule the ids handed out are exactly `1..N` (N = number of PSMs; `PSM_COUNTER` starts
at 1), each once. -/
theorem ids_range (sched : List Nat) :
    ((runSchedule sched).handed.map Prod.snd).Perm ((List.range sched.length).map (· + 1)) := by
  unfold runSchedule
  rw [runFrom_ids, List.map_nil, List.append_nil, List.range'_eq_map_range]
  simp only [Nat.add_comm 1]
  exact List.reverse_perm _

example : ((runSchedule [7, 7, 2]).handed.map Prod.snd) = [3, 2, 1] := by decide +kernel

/-- Inside one task the ids are received in increasing order (rank 1 gets
the smallest id of its spectrum), whatever the other tasks do in between. -/
theorem ids_program_order (s : CState) (sched : List Nat) (task : Nat) (hs : s.handed = []) :
    (idsOf (runFrom s sched).handed task).Pairwise (· < ·) := by
  refine List.Pairwise.sublist (idsOf_sublist _ _) ?_
  rw [runFrom_handed, hs, List.append_nil, List.reverse_reverse, List.zipIdx_map_snd]
  exact List.pairwise_lt_range'

example : idsOf (runSchedule [3, 1, 3, 3, 0, 1]).handed 3 = [1, 3, 4] := by decide +kernel

/-- The same counter written as `load; store` (no atomic
read-modify-write) hands out a duplicate id under a well-formed two-task schedule: uniqueness is a
theorem about atomicity, not about counting. -/
theorem broken_counter_duplicates :
    ∃ ops : List BOp, wellFormedBroken ops = true ∧ ¬ ((runBroken ops).handed.map Prod.snd).Nodup :=
  ⟨[.load 0, .load 1, .store 0, .store 1], rfl, by decide +kernel⟩

example : (runBroken [.load 0, .load 1, .store 0, .store 1]).handed = [(1, 1), (0, 1)] := by decide +kernel
/-- …while the sequentially consistent interleaving `load 0; store 0; load 1; store 1` is fine -/
example : (runBroken [.load 0, .store 0, .load 1, .store 1]).handed = [(1, 2), (0, 1)] := by decide +kernel

/-- "They come out in input order": `par_iter().flat_map(score).collect()` equals the sequential
`iter().flat_map(score).collect()` for every way rayon may split the input (any thread count, any
stealing pattern). -/
theorem par_flat_map_any_split {α β : Type} (f : α → List β) (t : Split α) :
    parFlatMap f t = seqFlatMap f t.items := by
  unfold seqFlatMap
  induction t with
  | leaf xs => rfl
  | node l r ihl ihr => simp [parFlatMap, Split.items, ihl, ihr]

example : parFlatMap (fun n => List.replicate n n) (.node (.node (.leaf [1]) (.leaf [])) (.leaf [2, 0, 3]))
    = [1, 2, 2, 3, 3, 3] := by decide +kernel

/-- "Bit-identical whatever ... the interleaving of the work-stealing scheduler": with ids erased, the
result of the search stage is `spectra.flatMap score` for every complete schedule, because `score`
never reads the counter. -/
theorem search_content_schedule_free {σ φ : Type} (score : σ → List φ) (start : CState)
    (hs : start.handed = []) (sched : List Nat) (spectra : List σ)
    (hc : completeSchedule score spectra sched) :
    (searchRun score start sched spectra).map Prod.fst = spectra.flatMap score := by
  unfold searchRun
  rw [List.map_flatMap]
  conv_rhs => rw [← List.zipIdx_map_fst 0 spectra, List.flatMap_map]
  -- task `t` received as many ids as spectrum `t` has PSMs, so the zip drops nothing
  refine List.flatMap_congr fun p hp => List.map_fst_zip (Nat.le_of_eq ?_)
  rw [idsOf_length, hs, hc p.2 p.1 (List.mem_zipIdx_iff_getElem?.mp hp)]
  exact (Nat.zero_add _).symm

/-- "Only the opaque PSM identifiers may differ": two runs of the same search under any two complete
schedules (and any two counter start values) differ at most in the psm_ids. -/
theorem search_schedules_agree {σ φ : Type} (score : σ → List φ) (c c' : Nat) (sched sched' : List Nat)
    (spectra : List σ) (hc : completeSchedule score spectra sched) (hc' : completeSchedule score spectra sched') :
    (searchRun score { counter := c } sched spectra).map Prod.fst
      = (searchRun score { counter := c' } sched' spectra).map Prod.fst := by
  rw [search_content_schedule_free score _ rfl sched spectra hc,
    search_content_schedule_free score _ rfl sched' spectra hc']

example : searchRun (fun n : Nat => List.replicate n (10 * n)) {} [1, 0, 1, 0, 1] [2, 3]
    = [(20, 2), (20, 4), (30, 1), (30, 3), (30, 5)] := by decide +kernel
example : searchRun (fun n : Nat => List.replicate n (10 * n)) {} [0, 0, 1, 1, 1] [2, 3]
    = [(20, 1), (20, 2), (30, 3), (30, 4), (30, 5)] := by decide +kernel

theorem map_snd_zip_sublist {α β : Type} (l : List α) (m : List β) : ((l.zip m).map Prod.snd).Sublist m := by
  rw [List.zip_eq_zip_take_min, List.map_snd_zip]
  · exact List.take_sublist ..
  · rw [List.length_take_of_le (Nat.min_le_left ..)]
    exact List.length_take_le ..

/-- "Those are unique within a run", on the PSMs themselves: the psm_ids attached by a search are
pairwise distinct for every schedule (complete or not) and every start state satisfying the counter
invariant. -/
theorem search_ids_unique {σ φ : Type} (score : σ → List φ) (start : CState)
    (hnd : (start.handed.map Prod.snd).Nodup) (hlt : ∀ i ∈ start.handed.map Prod.snd, i < start.counter)
    (sched : List Nat) (spectra : List σ) :
    ((searchRun score start sched spectra).map Prod.snd).Nodup := by
  have hN := ids_unique_from start hnd hlt sched
  unfold searchRun
  rw [List.map_flatMap, List.nodup_flatMap]
  constructor
  · intro p _
    refine ((idsOf_sublist _ p.2).nodup ?_).sublist (map_snd_zip_sublist _ _)
    rwa [List.map_reverse, List.nodup_reverse]
  · have hp : (spectra.zipIdx).Pairwise (fun a b : σ × Nat => a.2 ≠ b.2) :=
      List.pairwise_map.mp (by rw [List.zipIdx_map_snd]; exact List.nodup_range')
    refine hp.imp fun {a b} hne i hi hi' => hne ?_
    -- one id belongs to one pair of `handed`, hence to one task
    exact congrArg Prod.fst (List.inj_on_of_nodup_map hN
      (mem_idsOf ((map_snd_zip_sublist _ _).subset hi))
      (mem_idsOf ((map_snd_zip_sublist _ _).subset hi')) rfl)

example : ((searchRun (fun n : Nat => List.replicate n n) { counter := 7 } [1, 0, 1, 1, 0] [2, 3]).map Prod.snd)
    = [8, 11, 7, 9, 10] := by decide +kernel

/-- The executable clause the driver evaluates on the implementation's
psm_ids (`bad:duplicate_psm_id`) is exactly pairwise distinctness. -/
theorem allDistinct_iff_nodup (l : List Nat) : allDistinct l = true ↔ l.Nodup := by
  induction l with
  | nil => simp [allDistinct]
  | cons x xs ih => simp [allDistinct, ih]

/-- The ids the model attaches to the PSMs of a search pass the
driver's executable uniqueness clause, for every schedule. -/
theorem model_meets_id_clause {σ φ : Type} (score : σ → List φ) (sched : List Nat) (spectra : List σ) :
    allDistinct ((searchRun score {} sched spectra).map Prod.snd) = true :=
  (allDistinct_iff_nodup _).mpr (search_ids_unique score {} List.nodup_nil (fun _ h => nomatch h) sched spectra)

example : allDistinct [3, 1, 2] = true ∧ allDistinct [3, 1, 3] = false := by decide +kernel

theorem RTree.reduce_eq_foldl {ρ : Type} (op : ρ → ρ → ρ) (e : ρ)
    (assoc : ∀ a b c, op (op a b) c = op a (op b c)) (idl : ∀ a, op e a = a) (idr : ∀ a, op a e = a)
    (t : RTree ρ) : t.reduce op e = t.leaves.foldl op e := by
  have : Std.Associative op := ⟨assoc⟩
  induction t with
  | ident => rfl
  | leaf r => exact (idl r).symm
  | node l r ihl ihr =>
    rw [RTree.reduce, RTree.leaves, List.foldl_append, ihl, ihr, ← List.foldl_assoc (op := op), idr]

/-- In exact arithmetic (any additive monoid, e.g. ℚ) a parallel `sum()`/`reduce(|| 0, +)` gives the
list sum for every reduction tree: the only schedule dependence of the downstream statistics
(`Kde::pdf`, matrix column means) is floating-point rounding. -/
theorem par_sum_any_tree {α : Type} [AddMonoid α] (t : RTree α) :
    t.reduce (· + ·) 0 = t.leaves.sum :=
  (RTree.reduce_eq_foldl (ρ := α) _ 0 add_assoc zero_add add_zero t).trans List.sum_eq_foldl.symm

example : (RTree.node (.node (.leaf (1/2 : Rat)) .ident) (.node (.leaf (1/3)) (.leaf (1/6)))).reduce (· + ·) 0 = 1 := by
  decide +kernel

theorem RTree.leaves_map {ρ τ : Type} (g : ρ → τ) (t : RTree ρ) : (t.map g).leaves = t.leaves.map g := by
  induction t with
  | ident => rfl
  | leaf r => rfl
  | node l r ihl ihr => simp [RTree.map, RTree.leaves, ihl, ihr]

theorem MS1.merge_assoc {μ : Type} (a b c : MS1 μ) :
    (a.merge b).bind (fun ab => ab.merge c) = (b.merge c).bind (fun bc => a.merge bc) := by
  cases a <;> cases b <;> cases c
  case noMobility.noMobility.noMobility =>
    exact congrArg (some <| MS1.noMobility ·) (List.append_assoc ..)
  case withMobility.withMobility.withMobility =>
    exact congrArg (some <| MS1.withMobility ·) (List.append_assoc ..)
  all_goals rfl

theorem MS1.merge_empty_left {μ : Type} (a : MS1 μ) : MS1.empty.merge a = some a := by
  cases a <;> rfl
theorem MS1.merge_empty_right {μ : Type} (a : MS1 μ) : a.merge MS1.empty = some a := by
  cases a <;> rfl

theorem ms1Of_merge {μ : Type} (a b : List μ) : (ms1Of a).merge (ms1Of b) = some (ms1Of (a ++ b)) := by
  cases b with
  | nil => rw [List.append_nil]; exact MS1.merge_empty_right _
  | cons y ys => cases a <;> rfl

theorem flatMap_const_nil {α β : Type} (l : List α) : l.flatMap (fun _ => ([] : List β)) = [] :=
  List.flatMap_eq_nil_iff.mpr fun _ _ => rfl

section
variable {φ θ μ : Type}

theorem combine_eq (x y : Results φ θ μ) :
    combine x y = (x.ms1.merge y.ms1).map (⟨x.features ++ y.features, x.quant ++ y.quant, ·⟩) := by
  unfold combine
  cases x.ms1.merge y.ms1 <;> rfl

theorem combineO_map_left (f : List φ) (q : List θ) (o : Option (MS1 μ)) (z : Results φ θ μ) :
    combineO (o.map (⟨f, q, ·⟩)) (some z)
      = (o.bind (·.merge z.ms1)).map (⟨f ++ z.features, q ++ z.quant, ·⟩) := by
  cases o with
  | none => rfl
  | some m => exact combine_eq ⟨f, q, m⟩ z

theorem combineO_map_right (x : Results φ θ μ) (f : List φ) (q : List θ) (o : Option (MS1 μ)) :
    combineO (some x) (o.map (⟨f, q, ·⟩))
      = (o.bind (x.ms1.merge ·)).map (⟨x.features ++ f, x.quant ++ q, ·⟩) := by
  cases o with
  | none => rfl
  | some m => exact combine_eq x ⟨f, q, m⟩

theorem combineO_none_right (a : Option (Results φ θ μ)) : combineO a none = none := by
  cases a <;> rfl

theorem combineO_assoc (a b c : Option (Results φ θ μ)) :
    combineO (combineO a b) c = combineO a (combineO b c) := by
  cases a with
  | none => rfl
  | some x =>
  cases b with
  | none => rfl
  | some y =>
  cases c with
  | none => exact combineO_none_right _
  | some z =>
    show combineO (combine x y) (some z) = combineO (some x) (combine y z)
    rw [combine_eq, combine_eq, combineO_map_left, combineO_map_right, MS1.merge_assoc,
      List.append_assoc, List.append_assoc]

theorem combineO_id_left (a : Option (Results φ θ μ)) : combineO (some {}) a = a := by
  cases a with
  | none => rfl
  | some x => simp [combineO, combine_eq, MS1.merge_empty_left]
theorem combineO_id_right (a : Option (Results φ θ μ)) : combineO a (some {}) = a := by
  cases a with
  | none => rfl
  | some x => simp [combineO, combine_eq, MS1.merge_empty_right]

theorem reduceSeq_concat (rs : List (Results φ θ μ)) (x : Results φ θ μ) :
    reduceSeq (rs ++ [x]) = combineO (reduceSeq rs) (some x) :=
  List.foldl_concat ..

theorem reduceSeq_eq (rs : List (Results φ θ μ)) :
    reduceSeq rs = (rs.foldl (fun o x => o.bind (·.merge x.ms1)) (some .empty)).map
      (⟨rs.flatMap (·.features), rs.flatMap (·.quant), ·⟩) := by
  induction rs using List.reverseRecOn with
  | nil => rfl
  | append_singleton l x ih =>
    rw [reduceSeq_concat, ih, combineO_map_left, List.foldl_concat, List.flatMap_append,
      List.flatMap_append, List.flatMap_singleton, List.flatMap_singleton]

theorem reduceSeq_map_ms1Of {κ : Type} (R : κ → Results φ θ μ) (M : κ → List μ) (L : List κ)
    (h : ∀ x ∈ L, (R x).ms1 = ms1Of (M x)) :
    reduceSeq (L.map R) = some ⟨L.flatMap (fun x => (R x).features), L.flatMap (fun x => (R x).quant),
      ms1Of (L.flatMap M)⟩ := by
  have hm : (L.map R).foldl (fun o x => o.bind (·.merge x.ms1)) (some .empty)
      = some (ms1Of (L.flatMap M)) := by
    induction L using List.reverseRecOn with
    | nil => rfl
    | append_singleton l x ih =>
      rw [List.map_append, List.map_singleton, List.foldl_concat,
        ih fun y hy => h y (List.mem_append_left _ hy), Option.bind_some,
        h x (List.mem_append_right _ (List.mem_singleton_self x)), ms1Of_merge,
        List.flatMap_append, List.flatMap_singleton]
  rw [reduceSeq_eq, hm, List.flatMap_map, List.flatMap_map]
  rfl

theorem reduceSeq_map_mk {κ : Type} (F : κ → List φ) (M : κ → List μ) (L : List κ) :
    reduceSeq (L.map fun x => ({ features := F x, ms1 := ms1Of (M x) } : Results φ θ μ))
      = some { features := L.flatMap F, ms1 := ms1Of (L.flatMap M) } :=
  (reduceSeq_map_ms1Of _ M L fun _ _ => rfl).trans
    (by rw [flatMap_const_nil])

end

/-- "Bit-identical whatever the number of worker threads": the `SageResults` reduction gives, for
every tree rayon may build (any shape, identity elements inserted anywhere), the sequential left fold
of the per-chunk results in input order, including whether it panics on mixed MS1 kinds. -/
theorem reduce_any_tree {φ θ μ : Type} (t : RTree (Results φ θ μ)) : reduceTree t = reduceSeq t.leaves := by
  unfold reduceTree reduceSeq
  rw [RTree.reduce_eq_foldl combineO (some {}) combineO_assoc combineO_id_left combineO_id_right,
    RTree.leaves_map, List.foldl_map]

/-- "Whatever the number of worker threads": any two reduction trees rayon may build over the same
per-chunk results agree. -/
theorem reduce_tree_shape_irrelevant {φ θ μ : Type} (t t' : RTree (Results φ θ μ)) (h : t.leaves = t'.leaves) :
    reduceTree t = reduceTree t' := by
  rw [reduce_any_tree, reduce_any_tree, h]

example :
    let a : Results Nat Nat Nat := { features := [1, 2], quant := [7], ms1 := .noMobility [5] }
    let b : Results Nat Nat Nat := { features := [3], ms1 := .empty }
    let c : Results Nat Nat Nat := { features := [4, 5], quant := [8], ms1 := .noMobility [6] }
    reduceTree (.node (.leaf a) (.node (.node .ident (.leaf b)) (.leaf c)))
      = some { features := [1, 2, 3, 4, 5], quant := [7, 8], ms1 := .noMobility [5, 6] }
    ∧ reduceTree (.node (.node (.leaf a) (.leaf b)) (.node (.leaf c) .ident))
      = some { features := [1, 2, 3, 4, 5], quant := [7, 8], ms1 := .noMobility [5, 6] } := by decide +kernel

/-- "They come out in input order", after the reduction: when it does not panic, the features (and
TMT rows) of the result are the in-order concatenation of the leaves'. -/
theorem reduce_concat {φ θ μ : Type} (rs : List (Results φ θ μ)) (r : Results φ θ μ)
    (h : reduceSeq rs = some r) :
    r.features = rs.flatMap (·.features) ∧ r.quant = rs.flatMap (·.quant) := by
  rw [reduceSeq_eq] at h
  obtain ⟨m, -, rfl⟩ := Option.map_eq_some_iff.mp h
  exact ⟨rfl, rfl⟩

example : reduceSeq [({ features := [1], quant := [9] } : Results Nat Nat Nat), { features := [2, 3] }]
    = some { features := [1, 2, 3], quant := [9] } := by decide +kernel

/-- With no MS1 payload on any leaf (LFQ off: every chunk
returns `MS1Spectra::Empty`) the reduction is total. -/
theorem reduce_never_panics_without_ms1 {φ θ μ : Type} (rs : List (Results φ θ μ))
    (h : ∀ r ∈ rs, r.ms1 = .empty) :
    reduceSeq rs = some { features := rs.flatMap (·.features), quant := rs.flatMap (·.quant), ms1 := .empty } := by
  -- `.empty` is `ms1Of []`
  have key := reduceSeq_map_ms1Of id (fun _ => []) rs h
  rwa [List.map_id, flatMap_const_nil] at key

/-- the panic is real: mixing mobility kinds makes every tree fail -/
example : reduceSeq [({ ms1 := .noMobility [1] } : Results Nat Nat Nat), { ms1 := .withMobility [2] }] = none := by
  decide +kernel

theorem zipIdx_take_append_drop {β : Type} (l : List β) (n k : Nat) :
    (l.take n).zipIdx k ++ (l.drop n).zipIdx (k + n) = l.zipIdx k := by
  induction n generalizing l k with
  | zero => rfl
  | succ n ih =>
    cases l with
    | nil => rfl
    | cons x xs => rw [List.take_succ_cons, List.drop_succ_cons, List.zipIdx_cons, List.cons_append,
        ← Nat.add_assoc, Nat.add_right_comm, ih, List.zipIdx_cons]

/-- the first chunk's number `c` is left open for the induction -/
theorem chunks_zipIdx {β : Type} (bs : Nat) (h : 0 < bs) (fuel : Nat) (l : List β) (c : Nat)
    (hl : l.length ≤ fuel) :
    ((chunks bs fuel l).zipIdx c).flatMap (fun x => x.1.zipIdx (x.2 * bs)) = l.zipIdx (c * bs) := by
  induction fuel generalizing l c with
  | zero =>
    rw [List.eq_nil_of_length_eq_zero (Nat.le_zero.mp hl)]
    rfl
  | succ f ih =>
    cases l with
    | nil => rfl
    | cons x xs =>
      have step : chunks bs (f + 1) (x :: xs)
          = (x :: xs).take bs :: chunks bs f ((x :: xs).drop bs) := rfl
      rw [step, List.zipIdx_cons, List.flatMap_cons, ih _ _ (by
        rw [List.length_drop]; exact Nat.sub_le_of_le_add (hl.trans (Nat.add_le_add_left h f))),
        Nat.succ_mul, zipIdx_take_append_drop]

theorem zipIdx_map_offset {β γ : Type} (process : Nat → β → γ) (k : Nat) (l : List β) :
    (l.zipIdx).map (fun (f, i) => process (k + i) f) = (l.zipIdx k).map (fun (f, g) => process g f) := by
  rw [List.zipIdx_eq_map_add (i := k), List.map_map]
  rfl

theorem batch_flatMap {β γ : Type} (g : Nat → β → List γ) (bs : Nat) (h : 0 < bs) (files : List β) :
    ((chunks bs files.length files).zipIdx).flatMap (fun (chunk, c) =>
        (chunk.zipIdx).flatMap (fun (f, i) => g (c * bs + i) f))
      = (files.zipIdx).flatMap (fun (f, k) => g k f) := by
  have key := chunks_zipIdx bs h files.length files 0 (Nat.le_refl _)
  rw [Nat.zero_mul] at key
  rw [← key, List.flatMap_assoc]
  refine List.flatMap_congr fun x _ => ?_
  rw [List.flatMap_def, ← zipIdx_map_offset]
  rfl

/-- "Whatever ... the way input files are batched": for every batch size `bs ≥ 1`, `batch_files` hands
every file to `process` exactly once, in input order, with `file_id = chunk_idx * bs + idx` equal to
the file's global position, also in the last, partial chunk. -/
theorem batching_irrelevant {β γ : Type} (process : Nat → β → γ) (bs : Nat) (h : 0 < bs) (files : List β) :
    batchFiles process bs files = (files.zipIdx).map (fun (f, g) => process g f) := by
  unfold batchFiles
  simp only [List.map_eq_flatMap]
  exact batch_flatMap (fun k f => [process k f]) bs h files

example : batchFiles (fun g f => (g, f)) 3 ["a", "b", "c", "d", "e", "f", "g"]
    = [(0, "a"), (1, "b"), (2, "c"), (3, "d"), (4, "e"), (5, "f"), (6, "g")] := rfl
example : chunks 3 7 ["a", "b", "c", "d", "e", "f", "g"] = [["a", "b", "c"], ["d", "e", "f"], ["g"]] := rfl

/-- "Whatever ... the way input files are batched": any two batch sizes ≥ 1 give the same result. -/
theorem batch_size_independent {β γ : Type} (process : Nat → β → γ) (bs bs' : Nat) (h : 0 < bs) (h' : 0 < bs')
    (files : List β) : batchFiles process bs files = batchFiles process bs' files := by
  rw [batching_irrelevant process bs h, batching_irrelevant process bs' h']

example : batchFiles (fun g f => (g, f)) 2 [10, 20, 30] = batchFiles (fun g f => (g, f)) 5 [10, 20, 30] := by decide +kernel

/-- `chunks(0)` panics in Rust ("chunk size must be non-zero"); the model says so instead of
inventing a value -/
theorem batchFiles_zero {β γ : Type} (process : Nat → β → γ) (files : List β) :
    batchFiles? process 0 files = none := rfl

/-- "Whatever ... the way input files are batched", for the whole `batch_files` pipeline (chunk, read,
search each chunk, fold the per-chunk results): for every batch size ≥ 1 it returns the features of
searching all spectra of all files in input order, every file read under its global position, and
never panics when no MS1 is kept. -/
theorem batch_run_irrelevant {β σ φ : Type} (read : Nat → β → List σ) (score : σ → List φ)
    (bs : Nat) (h : 0 < bs) (files : List β) :
    batchRun read score bs files =
      some { features := ((files.zipIdx).flatMap (fun (f, g) => read g f)).flatMap score } := by
  unfold batchRun
  rw [← batch_flatMap read bs h files, List.flatMap_assoc]
  refine (reduceSeq_map_mk _ (fun _ => []) _).trans ?_
  rw [flatMap_const_nil]
  rfl

example : batchRun (fun g (f : Nat) => List.replicate f (g, f)) (fun s => [s, s]) 2 [1, 0, 2]
    = some { features := [(0, 1), (0, 1), (2, 2), (2, 2), (2, 2), (2, 2)] } := by decide +kernel

theorem foldOp_foldl {σ : Type} (isMs1 : σ → Bool) (a : Acc σ) (xs : List σ) :
    xs.foldl (Acc.foldOp isMs1) a =
      { ms1 := a.ms1 ++ xs.filter isMs1, msn := a.msn ++ xs.filter (fun x => !isMs1 x) } := by
  induction xs generalizing a with
  | nil => simp
  | cons x xs ih =>
    rw [List.foldl_cons, ih]
    by_cases hx : isMs1 x <;> simp [Acc.foldOp, hx]

theorem seq_accumulate_spec {σ : Type} (isMs1 : σ → Bool) (xs : List σ) :
    seqAccumulate isMs1 xs = { ms1 := xs.filter isMs1, msn := xs.filter (fun x => !isMs1 x) } :=
  foldOp_foldl isMs1 {} xs

example : seqAccumulate (· == 1) [1, 2, 1, 1, 3, 2] = { ms1 := [1, 1, 1], msn := [2, 3, 2] } := by decide +kernel

/-- `RawSpectrumAccumulator::from_par_iter` (fold per piece, `reduce` up the tree) equals the
sequential accumulator for every way rayon may split the scan sequence (empty pieces included): no
scan is lost, duplicated or reordered. -/
theorem accumulate_any_split {σ : Type} (isMs1 : σ → Bool) (t : Split σ) :
    parAccumulate isMs1 t = seqAccumulate isMs1 t.items := by
  rw [seq_accumulate_spec]
  unfold parAccumulate
  induction t with
  | leaf xs => exact seq_accumulate_spec isMs1 xs
  | node l r ihl ihr => simp [parAccumulateWith, Split.items, ihl, ihr, Acc.reduce]

/-- the levels `1111 2212 2122 1222` in four pieces of four -/
example : parAccumulate (· == 1)
    (.node (.node (.leaf [1, 1, 1, 1]) (.leaf [2, 2, 1, 2])) (.node (.leaf [2, 1, 2, 2]) (.leaf [1, 2, 2, 2])))
    = { ms1 := [1, 1, 1, 1, 1, 1, 1], msn := [2, 2, 2, 2, 2, 2, 2, 2, 2] } := by decide +kernel

/-- With the shortcut `if self.msn.is_empty() { return other; }` in front of `reduce` (the seeded
change C11-H) a left piece holding only MS1 scans is dropped: on the levels `1111 2212 2122 1222`
split in four pieces, 3 of the 7 MS1 scans survive; in one piece, all 7 do.  So
`accumulate_any_split` is a theorem about `reduce` looking at BOTH components. -/
theorem shortcut_reduce_loses_ms1 :
    ∃ t t' : Split Nat, t.items = t'.items ∧
      (parAccumulateWith Acc.reduceShortcut (· == 1) t).ms1 ≠ (parAccumulateWith Acc.reduceShortcut (· == 1) t').ms1 ∧
      (parAccumulateWith Acc.reduceShortcut (· == 1) t).ms1.length = 3 ∧
      (parAccumulateWith Acc.reduceShortcut (· == 1) t').ms1.length = 7 :=
  ⟨.node (.node (.leaf [1, 1, 1, 1]) (.leaf [2, 2, 1, 2])) (.node (.leaf [2, 1, 2, 2]) (.leaf [1, 2, 2, 2])),
    .leaf [1, 1, 1, 1, 2, 2, 1, 2, 2, 1, 2, 2, 1, 2, 2, 2], by decide +kernel⟩

theorem Acc.reduceShortcut_msn {σ : Type} (a b : Acc σ) : (a.reduceShortcut b).msn = a.msn ++ b.msn := by
  unfold Acc.reduceShortcut
  split
  · next h => rw [List.isEmpty_iff.mp h]; rfl
  · rfl

/-- The MSn scans (hence the PSMs) are unaffected by the shortcut for every split, since it only fires
when `a.msn` is empty: only a check that looks at the MS1 side can see it. -/
theorem shortcut_reduce_keeps_msn {σ : Type} (isMs1 : σ → Bool) (t : Split σ) :
    (parAccumulateWith Acc.reduceShortcut isMs1 t).msn = (seqAccumulate isMs1 t.items).msn := by
  rw [seq_accumulate_spec]
  induction t with
  | leaf xs => exact congrArg Acc.msn (seq_accumulate_spec isMs1 xs)
  | node l r ihl ihr =>
    rw [parAccumulateWith, Acc.reduceShortcut_msn, ihl, ihr]
    exact (List.filter_append ..).symm

example : (parAccumulateWith Acc.reduceShortcut (· == 1) (.node (.leaf [1, 1]) (.leaf [2, 1, 2])))
    = { ms1 := [1], msn := [2, 2] } := by decide +kernel

/-- `batch_run_irrelevant` with the MS1 side (what reaches LFQ) kept: for every batch size ≥ 1 and
every splitting of each chunk's scan sequence, `batch_files` returns the PSMs of all MSn scans and
carries exactly the MS1 scans of all files, both in input order; it never panics. -/
theorem batch_run_ms1_irrelevant {β σ φ : Type} (read : Nat → β → List σ) (isMs1 : σ → Bool)
    (score : σ → List φ) (splitOf : List σ → Split σ) (hsplit : ∀ l, (splitOf l).items = l)
    (bs : Nat) (h : 0 < bs) (files : List β) :
    batchRunMs1 read isMs1 score splitOf bs files =
      some { features := (((files.zipIdx).flatMap (fun (f, g) => read g f)).filter (fun x => !isMs1 x)).flatMap score,
             ms1 := ms1Of (((files.zipIdx).flatMap (fun (f, g) => read g f)).filter isMs1) } := by
  unfold batchRunMs1
  simp only [accumulate_any_split, hsplit, seq_accumulate_spec]
  rw [← batch_flatMap read bs h files, List.filter_flatMap, List.filter_flatMap, List.flatMap_assoc]
  exact reduceSeq_map_mk _ _ _

example : batchRunMs1 (fun g (f : List Nat) => f.map (fun l => (g, l))) (fun s => s.2 == 1) (fun s => [s])
      (fun l => .node (.leaf (l.take 2)) (.leaf (l.drop 2))) 2 [[1, 1, 2], [2, 1], [1]]
    = some { features := [(0, 2), (1, 2)], ms1 := .noMobility [(0, 1), (0, 1), (1, 1), (2, 1)] } := by decide +kernel

/-- The executable clause of the `alignpools` op (`bad:align_thread_dependent`)
says exactly: the reply of EVERY pool equals the reply of the first (1-thread) pool. -/
theorem allEqualFirst_iff {ρ : Type} [BEq ρ] [LawfulBEq ρ] (r : ρ) (rs : List ρ) :
    allEqualFirst (r :: rs) = true ↔ ∀ x ∈ r :: rs, x = r := by
  simp only [allEqualFirst, List.all_eq_true, beq_iff_eq, List.forall_mem_cons, true_and]

example : allEqualFirst [[1, 2], [1, 2], [1, 2]] = true ∧ allEqualFirst [[1, 2], [1, 3]] = false := by decide +kernel

end Sage.C11
