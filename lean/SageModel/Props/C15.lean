import SageModel.Model.C15
import Mathlib.Algebra.Order.Field.Basic
import Mathlib.Algebra.Order.Field.Rat
import Mathlib.Tactic.Ring
import Mathlib.Algebra.BigOperators.Group.List.Basic
import Mathlib.Data.Rat.Sqrt
import Mathlib.Data.List.GetD

/-!
# C15 — LDA rescoring finds the Fisher direction, targets scoring high, or falls back

Property text: *Rescoring gives every PSM a finite discriminant score under which targets score higher
on average than decoys, and the fitted direction is the Fisher discriminant — proportional to the
within-class scatter inverse applied to the difference of class means — independent of the order of
the PSMs. The linear-system solver underneath returns a solution with small residual or reports
failure, never a silently wrong answer, and when the model cannot be fitted (one class empty, constant
or non-finite features) the pipeline falls back to a finite heuristic score instead of propagating NaN.*

The theorems are about the generic model of `Model/C15.lean` instantiated at an arbitrary linearly
ordered field `K` (so in particular at ℚ, the driver's exact oracle): they are statements of exact
algebra. **Numerical stability is not a theorem here**: that the f64 run of the same functions stays
close to the exact one (small residual of `Gauss::solve`, small angle to the exact Fisher direction)
is decided by the differential run against exact arithmetic, see `config/C15.json`.
-/

namespace Sage.C15

set_option linter.unusedSectionVars false

variable {K : Type} [Field K] [LinearOrder K] [IsStrictOrderedRing K]

/-- the constants of the code as exact decimals -/
def cQ : Consts ℚ := ⟨1/100000000, 1/100000000, 10⟩

theorem isZero_iff (x : K) : isZero x = true ↔ x = 0 := by
  simp only [isZero, Bool.and_eq_true, decide_eq_true_eq]
  exact le_antisymm_iff.symm

theorem isOne_iff (x : K) : isOne x = true ↔ x = 1 := by
  simp only [isOne, Bool.and_eq_true, decide_eq_true_eq]
  exact le_antisymm_iff.symm

theorem absv_eq_abs (x : K) : absv x = |x| := by
  unfold absv
  split
  · rename_i h; exact (abs_of_neg h).symm
  · rename_i h; exact (abs_of_nonneg (not_lt.mp h)).symm

theorem dotl_eq_sum (xs ys : List K) : dotl xs ys = (List.zipWith (· * ·) xs ys).sum := by
  rw [List.sum_eq_foldl, ← List.map_uncurry_zip_eq_zipWith, List.foldl_map]
  rfl

@[simp] theorem dotl_nil_left (ys : List K) : dotl ([] : List K) ys = 0 := by simp [dotl]
@[simp] theorem dotl_nil_right (xs : List K) : dotl xs ([] : List K) = 0 := by simp [dotl]

theorem dotl_cons (x y : K) (xs ys : List K) : dotl (x :: xs) (y :: ys) = x * y + dotl xs ys := by
  rw [dotl_eq_sum, dotl_eq_sum, List.zipWith_cons_cons, List.sum_cons]

theorem dotl_map_mul_right (xs ys : List K) (c : K) : dotl xs (ys.map (· * c)) = dotl xs ys * c := by
  induction xs generalizing ys with
  | nil => simp
  | cons x xs ih =>
    cases ys with
    | nil => simp
    | cons y ys => simp only [List.map_cons, dotl_cons, ih]; ring

theorem dotl_map_mul_left (xs ys : List K) (c : K) : dotl (xs.map (c * ·)) ys = c * dotl xs ys := by
  induction xs generalizing ys with
  | nil => simp
  | cons x xs ih =>
    cases ys with
    | nil => simp
    | cons y ys => simp only [List.map_cons, dotl_cons, ih]; ring

theorem fsum_eq (l : List K) : fsum l = l.sum := by
  rw [fsum, neg_zero, List.sum_eq_foldl]

theorem getD_map_range {β : Type} (f : Nat → β) {n i : Nat} (h : i < n) (d : β) :
    ((List.range n).map f).getD i d = f i := by
  simp [List.getD_eq_getElem?_getD, List.getElem?_range h]

theorem orient_le (a b v : Vec K) : dotl a (orient a b v) ≤ dotl b (orient a b v) := by
  unfold orient
  split
  · rename_i hlt
    rw [dotl_map_mul_right, dotl_map_mul_right, mul_neg_one, mul_neg_one]
    exact neg_le_neg hlt.le
  · rename_i hge
    exact not_lt.mp hge

/-- **C15.orientation** — whenever `train` returns a direction `w`, the target class mean projects at
least as high as the decoy class mean: `mean_decoy · w ≤ mean_target · w` (so targets score higher on
average, the dot product being linear). Holds for every feature matrix, every labelling, every
`sqrt`, every constants record: it is a consequence of the final sign flip alone. Exact (ordered
field) statement; in f64 it needs the projections to be comparable (no NaN), which `score_psms`
guards by rejecting a non-finite eigenvector. -/
theorem orientation (c : Consts K) (sqrt : K → K) (feats : Mat K) (decoy : List Bool) (p : Nat)
    (w : Vec K) (h : train c sqrt feats decoy p = some w) :
    dotl (stats feats decoy p).muDecoy w ≤ dotl (stats feats decoy p).muTarget w := by
  unfold train fit at h
  split at h
  · cases h
  · obtain rfl := Option.some.inj h
    exact orient_le ..

/-- non-vacuity of `orientation`: a 4-row, 1-feature problem over ℚ on which `train` succeeds with the
identity as `sqrt` stand-in (targets 3, 5; decoys 1, 2). -/
example : (train (α := ℚ) ⟨1/100000000, 1/100000000, 10⟩ id [[3], [1], [5], [2]]
    [false, true, false, true] 1).isSome = true := by
  decide +kernel

/-- **C15.rank_one_step** — a rank-one matrix `u wᵀ` applied to `v` is `(w·v) u`:
`dotv (u wᵀ) v = u.map (· * (w·v))`. With `between_rank_one` this is why, in exact arithmetic, ONE power
step on `S_w⁻¹ S_b = c (S_w⁻¹ d) dᵀ` from any start `v` with `d·v ≠ 0` lands on the Fisher direction
`S_w⁻¹ d`. -/
theorem rank_one_step (u w v : Vec K) :
    dotv (u.map fun a => w.map fun b => a * b) v = u.map fun a => a * dotl w v := by
  unfold dotv
  rw [List.map_map]
  apply List.map_congr_left
  intro a _
  exact dotl_map_mul_left w v a

example : dotv (([1, 2] : List ℚ).map fun a => ([3, 4] : List ℚ).map fun b => a * b) [5, 6]
    = [1 * 39, 2 * 39] := by
  decide +kernel

/-- **C15.leftSolved_spec** — `left_solved` (as repaired in /repo) accepts exactly the matrices whose
diagonal entries are `1` or `0` and whose off-diagonal entries lie in `[-tol, tol]`. (Before the
repair the test was `x > 1e-8`, accepting any negative off-diagonal entry: the witness
`[[1e9,-1e9],[-1e9,1e9]]` is a corpus case.) -/
theorem leftSolved_spec (tol : K) (n : Nat) (L : Mat K) :
    leftSolved tol n L = true ↔
      ∀ i, i < n → ∀ j, j < n →
        (i = j → get L i j = 1 ∨ get L i j = 0) ∧ (i ≠ j → -tol ≤ get L i j ∧ get L i j ≤ tol) := by
  unfold leftSolved
  simp only [List.all_eq_true, List.mem_range]
  refine forall₂_congr fun i _ => forall₂_congr fun j _ => ?_
  by_cases hij : i = j
  · simp [hij, isOne_iff, isZero_iff]
  · simp [hij, absv_eq_abs, abs_le]

/-- non-vacuity: the identity is accepted, and the left side produced for the old witness
(`[[1,-1],[0,0]]`) is rejected -/
example : leftSolved (1/100000000 : ℚ) 2 [[1, 0], [0, 1]] = true := by decide +kernel
example : leftSolved (1/100000000 : ℚ) 2 [[1, -1], [0, 0]] = false := by decide +kernel

/-- **C15.fallback_finite** — over `XQ = Option ℚ` (`none` = NaN/±∞, division by zero = `none`): the
heuristic fallback score `ln_1p(-poisson) + longest_y_pct / 3` is finite whenever `poisson ≤ 0` and
`longest_y_pct` are finite. `ln_1p` is a parameter, assumed finite on finite arguments `> -1` (its
documented domain). -/
theorem fallback_finite (ln1p : XQ → XQ)
    (hln : ∀ x : ℚ, -1 < x → ∃ y : ℚ, ln1p (some x) = some y)
    (poisson lyp : ℚ) (hp : poisson ≤ 0) :
    ∃ r : ℚ, fallbackXQ ln1p (some poisson) (some lyp) = some r := by
  obtain ⟨y, hy⟩ := hln (-poisson) (neg_one_lt_zero.trans_le (neg_nonneg.mpr hp))
  refine ⟨y + lyp / 3, ?_⟩
  show ln1p (XQ.neg (some poisson)) + XQ.div (some lyp) (some 3) = _
  rw [XQ.neg, hy, XQ.div, if_neg (by decide)]
  rfl

/-- non-vacuity (and the hypothesis is needed): with a `ln_1p` that is finite exactly on `(-1, ∞)`,
`poisson = -2, longest_y_pct = 1/2` gives a finite score, while a non-finite `poisson` (before the repair of the overflow guard in
scoring.rs the code could produce `-inf`; now outside the domain) is NOT rescued by the fallback. -/
example : fallbackXQ (fun x => match x with | some v => if -1 < v then some v else none | none => none)
    (some (-2)) (some (1/2)) = some (2 + 1/6) := by
  decide +kernel
example (ln1p : XQ → XQ) (h : ln1p none = none) (y : XQ) : fallbackXQ ln1p none y = none := by
  show ln1p (XQ.neg none) + _ = none
  simp only [XQ.neg, h]
  rfl

theorem mean_getD (m : Mat K) {p j : Nat} (h : j < p) :
    (mean m p).getD j 0 = (col m j).sum / (m.length : K) := by
  unfold mean
  rw [getD_map_range _ h, fsum_eq]

theorem mean_length (m : Mat K) (p : Nat) : (mean m p).length = p := by simp [mean]

theorem class_split {f : Mat K} {d : List Bool} (hl : f.length = d.length) (j : Nat) :
    (col f j).sum = (col (classRows f d true) j).sum + (col (classRows f d false) j).sum ∧
    f.length = (classRows f d true).length + (classRows f d false).length := by
  have hp : (classRows f d true ++ classRows f d false).Perm f := by
    unfold classRows
    simpa only [beq_true, beq_false, List.map_fst_zip (le_of_eq hl), List.map_append] using
      (List.filter_append_perm (·.2) (f.zip d)).map (·.1)
  constructor
  · unfold col
    rw [← List.sum_append, ← List.map_append, (hp.map _).sum_eq]
  · rw [← List.length_append, hp.length_eq]

theorem getD_mem {β : Type} {l : List β} {i : Nat} (d : β) (h : i < l.length) : l.getD i d ∈ l :=
  List.getD_eq_getElem l d h ▸ List.getElem_mem h

theorem getD_zipWith {α β γ : Type} {f : α → β → γ} {a : List α} {b : List β} {i : Nat} (da : α) (db : β) (d : γ)
    (h1 : i < a.length) (h2 : i < b.length) : (List.zipWith f a b).getD i d = f (a.getD i da) (b.getD i db) := by
  rw [List.getD_eq_getElem _ _ h1, List.getD_eq_getElem _ _ h2,
    List.getD_eq_getElem _ _ (by rw [List.length_zipWith]; exact lt_min h1 h2), List.getElem_zipWith]

theorem get_dot {a : Mat K} (b : Mat K) {p i j : Nat} (hi : i < a.length) (hj : j < p) :
    get (dot a b p) i j = dotl (a.getD i []) (col b j) := by
  unfold get dot
  rw [List.getD_eq_getElem (a.map _) _ (by rwa [List.length_map]), List.getElem_map, getD_map_range _ hj,
    List.getD_eq_getElem _ _ hi]

theorem get_dot_col_row {dz : List K} {p i j : Nat} (hi : i < dz.length) (hj : j < p) :
    get (dot (dz.map fun x => [x]) (transpose (dz.map fun x => [x]) 1) p) i j
      = 0 + dz.getD i 0 * dz.getD j 0 := by
  have hc : col (transpose (dz.map fun x => [x]) 1) j = [dz.getD j 0] := by
    show [(col (dz.map fun x => [x]) 0).getD j 0] = _
    rw [col, List.map_map]
    exact congrArg (fun x => [x]) (List.getD_map dz 0 _)
  rw [get_dot _ (by rwa [List.length_map]) hj, List.getD_eq_getElem _ _ (by rwa [List.length_map]),
    List.getElem_map, hc, List.getD_eq_getElem _ _ hi]
  rfl

theorem get_classBetween {mu xbar : Vec K} {p i j : Nat} (hmu : mu.length = p) (hx : xbar.length = p)
    (hi : i < p) (hj : j < p) :
    get (classBetween mu xbar p) i j
      = 0 + (mu.getD i 0 - xbar.getD i 0) * (mu.getD j 0 - xbar.getD j 0) := by
  have hd : ∀ i, i < p → (List.zipWith (· - ·) mu xbar).getD i 0 = mu.getD i 0 - xbar.getD i 0 :=
    fun i hi => getD_zipWith _ _ _ (hmu ▸ hi) (hx ▸ hi)
  rw [← hd i hi, ← hd j hj]
  exact get_dot_col_row (by rw [List.length_zipWith, hmu, hx, min_self]; exact hi) hj

def Shape (m : Mat K) (r c : Nat) : Prop := m.length = r ∧ ∀ row ∈ m, row.length = c

theorem shape_zeros (r c : Nat) : Shape (zeros r c : Mat K) r c :=
  ⟨List.length_replicate, fun _ h => List.eq_of_mem_replicate h ▸ List.length_replicate⟩

theorem shape_classBetween {mu xbar : Vec K} {p : Nat} (hmu : mu.length = p) (hx : xbar.length = p) :
    Shape (classBetween mu xbar p) p p := by
  constructor
  · simp [classBetween, dot, hmu, hx]
  · intro row h
    simp only [classBetween, dot, List.mem_map] at h
    obtain ⟨_, _, rfl⟩ := h
    simp

theorem shape_madd {a b : Mat K} {r c : Nat} (ha : Shape a r c) (hb : Shape b r c) : Shape (madd a b) r c := by
  constructor
  · simp [madd, ha.1, hb.1]
  · intro row h
    simp only [madd] at h
    obtain ⟨i, hi, rfl⟩ := List.mem_iff_getElem.mp h
    simp only [List.length_zipWith] at hi
    simp only [List.getElem_zipWith, List.length_zipWith]
    rw [ha.2 _ (List.getElem_mem _), hb.2 _ (List.getElem_mem _)]; simp

theorem get_madd {a b : Mat K} {r c : Nat} (ha : Shape a r c) (hb : Shape b r c) {i j : Nat}
    (hi : i < r) (hj : j < c) : get (madd a b) i j = get a i j + get b i j := by
  have hia : i < a.length := ha.1 ▸ hi
  have hib : i < b.length := hb.1 ▸ hi
  unfold get madd
  rw [getD_zipWith [] [] _ hia hib,
    getD_zipWith 0 0 _ ((ha.2 _ (getD_mem _ hia)).symm ▸ hj) ((hb.2 _ (getD_mem _ hib)).symm ▸ hj)]

theorem get_zeros (r c i j : Nat) : get (zeros r c : Mat K) i j = 0 := by
  unfold get zeros
  rcases lt_or_ge i r with hi | hi
  · rw [List.getD_replicate _ hi, List.getD_eq_getElem?_getD, List.getElem?_getD_replicate_default_eq]
  · rw [List.getD_eq_default _ _ (List.length_replicate.trans_le hi), List.getD_nil]

theorem mean_split {f : Mat K} {d : List Bool} {p : Nat} (hl : f.length = d.length)
    (hD : 0 < (classRows f d true).length) (hT : 0 < (classRows f d false).length) {i : Nat} (hi : i < p) :
    (mean f p).getD i 0 =
      (((classRows f d true).length : K) * (mean (classRows f d true) p).getD i 0
        + ((classRows f d false).length : K) * (mean (classRows f d false) p).getD i 0)
      / (((classRows f d true).length : K) + ((classRows f d false).length : K)) := by
  obtain ⟨hs, hn⟩ := class_split hl i
  have hnD : ((classRows f d true).length : K) ≠ 0 := Nat.cast_ne_zero.mpr hD.ne'
  have hnT : ((classRows f d false).length : K) ≠ 0 := Nat.cast_ne_zero.mpr hT.ne'
  rw [mean_getD _ hi, mean_getD _ hi, mean_getD _ hi, hs, hn, Nat.cast_add,
    mul_div_cancel₀ _ hnD, mul_div_cancel₀ _ hnT]

/-- two classes with means `a`, `b` (resp. `a'`, `b'` in a second coordinate) and weights `nD`, `nT`: the
products of the deviations from the weighted mean add up to a multiple of `(b - a) * (b' - a')` -/
theorem between_algebra {nD nT a b a' b' : K} (h : nD + nT ≠ 0) :
    0 + (0 + (a - (nD * a + nT * b) / (nD + nT)) * (a' - (nD * a' + nT * b') / (nD + nT)))
      + (0 + (b - (nD * a + nT * b) / (nD + nT)) * (b' - (nD * a' + nT * b') / (nD + nT)))
    = (nT ^ 2 + nD ^ 2) / (nD + nT) ^ 2 * (b - a) * (b' - a') := by
  -- with the total `S = nD + nT` as a variable and every deviation over the denominator `S`, the identity
  -- is polynomial in `S⁻¹` (`field_simp` gets there too, at a higher price)
  obtain ⟨S, rfl⟩ : ∃ S, nD = S - nT := ⟨nD + nT, (add_sub_cancel_right nD nT).symm⟩
  rw [sub_div' h, sub_div' h, sub_div' h, sub_div' h]
  ring

/-- **C15.between_rank_one** — for two non-empty classes the between-class scatter matrix that `train`
builds is rank one: `S_b = c · d dᵀ` with `d = mean_target − mean_decoy` and
`c = (n_T² + n_D²)/(n_D + n_T)²`, entry by entry (because the overall mean is the weighted mean of the
class means). Exact (field) statement. -/
theorem between_rank_one (f : Mat K) (d : List Bool) (p : Nat) (hl : f.length = d.length)
    (hD : 0 < (classRows f d true).length) (hT : 0 < (classRows f d false).length)
    (i j : Nat) (hi : i < p) (hj : j < p) :
    let s := stats f d p
    let nD : K := ((classRows f d true).length : K)
    let nT : K := ((classRows f d false).length : K)
    get s.sb i j = (nT ^ 2 + nD ^ 2) / (nD + nT) ^ 2
      * (s.muTarget.getD i 0 - s.muDecoy.getD i 0) * (s.muTarget.getD j 0 - s.muDecoy.getD j 0) := by
  dsimp only [stats]
  have ml := mean_length (K := K)
  have sb := fun m : Mat K => shape_classBetween (ml m p) (ml f p)
  rw [get_madd (shape_madd (shape_zeros p p) (sb _)) (sb _) hi hj, get_madd (shape_zeros p p) (sb _) hi hj,
      get_zeros, get_classBetween (ml _ _) (ml _ _) hi hj, get_classBetween (ml _ _) (ml _ _) hi hj,
      mean_split hl hD hT hi, mean_split hl hD hT hj]
  exact between_algebra (Nat.cast_add (R := K) .. ▸ Nat.cast_ne_zero.mpr (Nat.add_pos_left hD _).ne')

/-- non-vacuity: the 2-feature example, entry (0,1): `S_b[0][1] = (2²+2²)/4² · (4−1.5)·(1−4)` -/
example : get (stats (α := ℚ) [[3, 1], [1, 3], [5, 1], [2, 5]] [false, true, false, true] 2).sb 0 1
    = (2 ^ 2 + 2 ^ 2) / (2 + 2) ^ 2 * (4 - 3 / 2) * (1 - 4) := by
  decide +kernel

theorem mean_perm {m m' : Mat K} (h : m.Perm m') (p : Nat) : mean m p = mean m' p := by
  unfold mean col
  refine List.map_congr_left fun c _ => ?_
  rw [fsum_eq, fsum_eq, (h.map _).sum_eq, h.length_eq]

theorem dotl_col_perm {m m' : Mat K} (h : m.Perm m') (i j : Nat) :
    dotl (col m i) (col m j) = dotl (col m' i) (col m' j) := by
  unfold col
  rw [dotl_eq_sum, dotl_eq_sum, List.zipWith_map, List.zipWith_self, List.zipWith_map, List.zipWith_self]
  exact (h.map _).sum_eq

theorem classCov_perm {m m' : Mat K} (h : m.Perm m') (p : Nat) : classCov m p = classCov m' p := by
  unfold classCov
  rw [mean_perm h p, h.length_eq]
  dsimp only
  congr 1
  have hc : (center m (mean m' p)).Perm (center m' (mean m' p)) := h.map _
  unfold dot transpose
  rw [List.map_map, List.map_map]
  apply List.map_congr_left
  intro i _
  apply List.map_congr_left
  intro j _
  exact dotl_col_perm hc i j

theorem classRows_perm {f f' : Mat K} {d d' : List Bool} (h : (f.zip d).Perm (f'.zip d')) (cls : Bool) :
    (classRows f d cls).Perm (classRows f' d' cls) := by
  unfold classRows
  exact (h.filter _).map _

theorem stats_perm {f f' : Mat K} {d d' : List Bool} (hl : f.length = d.length) (hl' : f'.length = d'.length)
    (h : (f.zip d).Perm (f'.zip d')) (p : Nat) : stats f d p = stats f' d' p := by
  have hf : f.Perm f' := by
    have := h.map Prod.fst
    rwa [List.map_fst_zip (le_of_eq hl), List.map_fst_zip (le_of_eq hl')] at this
  unfold stats
  simp only [mean_perm hf p, mean_perm (classRows_perm h true) p, mean_perm (classRows_perm h false) p,
    classCov_perm (classRows_perm h true) p, classCov_perm (classRows_perm h false) p]

/-- **C15.row_order_free** — `train` depends on the labelled rows only as a multiset: permuting the
PSMs (rows together with their labels) changes neither the overall mean, nor the class means, nor the
within/between scatter matrices (`stats_perm`), hence not the fitted direction. Exact (commutative
field) statement: in f64 the sums are taken in row order and the direction can move by rounding; the
correspondence op `lda` bounds that by the angle between the two directions. -/
theorem row_order_free (c : Consts K) (sqrt : K → K) {f f' : Mat K} {d d' : List Bool}
    (hl : f.length = d.length) (hl' : f'.length = d'.length)
    (h : (f.zip d).Perm (f'.zip d')) (p : Nat) :
    train c sqrt f d p = train c sqrt f' d' p := by
  unfold train
  rw [stats_perm hl hl' h p]

/-- non-vacuity: a genuine reordering of labelled rows -/
example : ([[3, 1], [1, 3], [5, 1]].zip [false, true, false] : List (List ℚ × Bool)).Perm
    ([[5, 1], [3, 1], [1, 3]].zip [false, false, true]) := by
  decide +kernel

theorem dotlXQ_finite (row w : List XQ) (hr : ∀ x ∈ row, x.isSome) (hw : ∀ x ∈ w, x.isSome) (a : ℚ) :
    ((row.zip w).foldl (fun (acc : XQ) p => acc + p.1 * p.2) (some a)).isSome := by
  induction row generalizing w a with
  | nil => rfl
  | cons x xs ih =>
    cases w with
    | nil => rfl
    | cons y ys =>
      obtain ⟨xv, rfl⟩ := Option.isSome_iff_exists.mp (hr x List.mem_cons_self)
      obtain ⟨yv, rfl⟩ := Option.isSome_iff_exists.mp (hw y List.mem_cons_self)
      exact ih ys (fun z hz => hr z (List.mem_cons_of_mem _ hz)) (fun z hz => hw z (List.mem_cons_of_mem _ hz)) (a + xv * yv)

/-- **C15.score_finite** — over `XQ` (`none` = NaN/±∞): once `score_psms`' guard has established that
every entry of the eigenvector is finite, every PSM whose (transformed) features are finite gets a finite
discriminant score. (Overflow of the f64 sum is outside `XQ`; the correspondence op `scorepsms`
checks finiteness of the real outputs.) -/
theorem score_finite (w : List XQ) (feats : List (List XQ)) (hw : ∀ x ∈ w, x.isSome)
    (hf : ∀ row ∈ feats, ∀ x ∈ row, x.isSome) : ∀ s ∈ scoreXQ w feats, s.isSome := by
  intro s hs
  simp only [scoreXQ, List.mem_map] at hs
  obtain ⟨row, hrow, rfl⟩ := hs
  exact dotlXQ_finite row w (hf row hrow) hw 0

/-- non-vacuity, and the guard is needed: a non-finite eigenvector entry gives a non-finite score -/
example : scoreXQ [some 1, some 2] [[some 3, some 4], [some (1/2), some 0]] = [some 11, some (1/2)] := by
  decide +kernel
example : scoreXQ [some 1, none] [[some 3, some 4]] = [none] := by decide +kernel

theorem poissonFeature_finite (ln1p : XQ → XQ) (poisson : XQ) : (poissonFeatureXQ ln1p poisson).isSome := by
  unfold poissonFeatureXQ
  split <;> rfl

/-- **C15.featureRow_finite** — over `XQ` (`none` = NaN/±∞): the feature row is finite whenever the 19 other
features are, for EVERY value of `poisson` (finite or not) and every `ln_1p`: the guard
`x if x.is_finite() => x, _ => 3.5` maps every non-finite `ln_1p(-poisson)` to the constant 3.5. -/
theorem featureRow_finite (ln1p : XQ → XQ) (poisson : XQ) (others : List XQ)
    (h : ∀ x ∈ others, x.isSome) : ∀ x ∈ featureRowXQ ln1p poisson others, x.isSome := by
  intro x hx
  simp only [featureRowXQ, List.mem_append, List.mem_cons] at hx
  rcases hx with hx | rfl | hx
  · exact h x (List.mem_of_mem_take hx)
  · exact poissonFeature_finite ln1p poisson
  · exact h x (List.mem_of_mem_drop hx)

/-- **C15.guarded_scores_finite** — closing the loop with `score_finite`: with a finite eigenvector, every
PSM whose other features are finite gets a finite discriminant score, whatever its `poisson` is. -/
theorem guarded_scores_finite (ln1p : XQ → XQ) (w : List XQ) (psms : List (XQ × List XQ))
    (hw : ∀ x ∈ w, x.isSome) (hf : ∀ q ∈ psms, ∀ x ∈ q.2, x.isSome) :
    ∀ s ∈ scoreXQ w (psms.map fun q => featureRowXQ ln1p q.1 q.2), s.isSome := by
  apply score_finite w _ hw
  intro row hrow
  simp only [List.mem_map] at hrow
  obtain ⟨q, hq, rfl⟩ := hrow
  exact featureRow_finite ln1p q.1 q.2 (hf q hq)

/-- non-vacuity: a non-finite poisson (`none`) with a `ln_1p` that propagates it gives the constant 7/2
at position 8; a finite one is passed through -/
example : featureRowXQ (fun x => x) none ((List.range 19).map fun i => some (i : ℚ))
    = ((List.range 8).map fun i => some (i : ℚ)) ++ some (7/2) :: ((List.range 11).map fun i => some ((i + 8 : ℕ) : ℚ)) := by
  decide +kernel
example : poissonFeatureXQ (fun x => x) (some (-2)) = some 2 := by decide +kernel

/-- row `(l, r)` of a system holds for the candidate solution `X` (row `j` of `X` = unknown `j`;
`m` right-hand columns): `Σ_j l_j X_{j,c} = r_c` -/
def RowSat (X : Mat K) (m : Nat) (l r : List K) : Prop := ∀ c, c < m → dotl l (col X c) = r.getD c 0

def Sat (X : Mat K) (m : Nat) (st : Mat K × Mat K) : Prop :=
  ∀ i, i < st.1.length → RowSat X m (st.1.getD i []) (st.2.getD i [])

theorem dotl_elimRight {hl l : List K} (v : List K) (f : K) (h : l.length = hl.length) :
    dotl (elimRight hl f l) v = dotl l v - f * dotl hl v := by
  unfold elimRight
  induction l generalizing hl v with
  | nil =>
    rw [List.eq_nil_of_length_eq_zero h.symm, List.mapIdx_nil, dotl_nil_left, mul_zero, sub_zero]
  | cons x xs ih =>
    obtain ⟨y, ys, rfl⟩ := List.exists_cons_of_length_eq_add_one h.symm
    cases v with
    | nil => rw [dotl_nil_right, dotl_nil_right, dotl_nil_right, mul_zero, sub_zero]
    | cons z zs =>
      rw [List.mapIdx_cons, dotl_cons, dotl_cons, dotl_cons]
      simp only [List.getD_cons_zero, List.getD_cons_succ]
      rw [ih zs (Nat.succ.inj h)]
      ring

theorem getD_mapIdx {α β : Type} (F : Nat → α → β) {l : List α} {k : Nat} (h : k < l.length) (d : α) (d' : β) :
    (l.mapIdx F).getD k d' = F k (l.getD k d) := by
  simp [List.getD_eq_getElem?_getD, List.getElem?_mapIdx, List.getElem?_eq_getElem h]

theorem getD_elimRight (hr : List K) {r : List K} (f : K) {c : Nat} (hc : c < r.length) :
    (elimRight hr f r).getD c 0 = r.getD c 0 - hr.getD c 0 * f :=
  getD_mapIdx _ hc 0 0

theorem length_elimRight (hr r : List K) (f : K) : (elimRight hr f r).length = r.length :=
  List.length_mapIdx

theorem elimRight_zero (hr r : List K) : elimRight hr 0 r = r := by
  unfold elimRight
  rw [List.mapIdx_eq_iff]
  intro i
  simp

theorem ite_elimRight (c : Prop) [Decidable c] (hr r : List K) (f : K) :
    (if c then elimRight hr f r else r) = elimRight hr (if c then f else 0) r := by
  split
  · rfl
  · exact (elimRight_zero hr r).symm

theorem rowSat_elimRight {X : Mat K} {m : Nat} {l r hl hr : List K} (f : K)
    (h : RowSat X m hl hr) (hlen : l.length = hl.length) (hr' : r.length = m) :
    RowSat X m (elimRight hl f l) (elimRight hr f r) ↔ RowSat X m l r := by
  refine forall₂_congr fun c hc => ?_
  rw [dotl_elimRight _ _ hlen, getD_elimRight _ _ (hr' ▸ hc), h c hc, mul_comm, sub_left_inj]

theorem firstNZ_spec {l : List K} {s j : Nat} {x : K} (h : firstNZ l s = some (j, x)) :
    ∃ i, j = s + i ∧ (∀ k, k < i → l.getD k 0 = 0) ∧ l.getD i 0 = x ∧ x ≠ 0 := by
  induction l generalizing s with
  | nil => cases h
  | cons y ys ih =>
    rw [firstNZ] at h
    split at h
    · rename_i hz
      obtain ⟨i, rfl, h2, h3, h4⟩ := ih h
      refine ⟨i + 1, Nat.add_right_comm s 1 i, fun k hk => ?_, h3, h4⟩
      cases k with
      | zero => exact (isZero_iff y).mp hz
      | succ k => exact h2 k (Nat.lt_of_succ_lt_succ hk)
    · rename_i hz
      obtain ⟨rfl, rfl⟩ := Prod.mk.inj (Option.some.inj h)
      exact ⟨0, rfl, fun k hk => absurd hk (Nat.not_lt_zero k), rfl, fun h0 => hz ((isZero_iff _).mpr h0)⟩

theorem dotl_map_div_left (xs ys : List K) (c : K) : dotl (xs.map (· / c)) ys = dotl xs ys / c := by
  simp only [div_eq_inv_mul, dotl_map_mul_left]

theorem reduceRow_left {l : List K} {j : Nat} {x : K} (h : firstNZ l 0 = some (j, x)) :
    (l.mapIdx fun k y => if k < j then y else y / x) = l.map (· / x) := by
  obtain ⟨i, hj, h2, _, _⟩ := firstNZ_spec h
  rw [Nat.zero_add] at hj
  subst hj
  refine List.ext_getElem (by rw [List.length_mapIdx, List.length_map]) fun k hk _ => ?_
  rw [List.length_mapIdx] at hk
  rw [List.getElem_mapIdx, List.getElem_map]
  split
  · rename_i hkj
    rw [← List.getD_eq_getElem l 0 hk, h2 k hkj, zero_div]
  · rfl

theorem length_reduceRow (l r : List K) :
    (reduceRow l r).1.length = l.length ∧ (reduceRow l r).2.length = r.length := by
  unfold reduceRow
  split
  · exact ⟨rfl, rfl⟩
  · exact ⟨List.length_mapIdx, List.length_map _⟩

theorem rowSat_reduceRow {X : Mat K} {m : Nat} {l r : List K} :
    RowSat X m (reduceRow l r).1 (reduceRow l r).2 ↔ RowSat X m l r := by
  unfold reduceRow
  split
  · rfl
  · rename_i j x hf
    obtain ⟨_, _, _, _, hx⟩ := firstNZ_spec hf
    simp only
    rw [reduceRow_left hf]
    refine forall₂_congr fun c _ => ?_
    rw [dotl_map_div_left, ← zero_div x, List.getD_map _ _ (· / x), zero_div, div_left_inj' hx]

def Rect (st : Mat K × Mat K) (n m : Nat) : Prop :=
  st.1.length = st.2.length ∧ (∀ r ∈ st.1, r.length = n) ∧ (∀ r ∈ st.2, r.length = m)

theorem rect_iff {st : Mat K × Mat K} {n m : Nat} :
    Rect st n m ↔ st.1.length = st.2.length ∧
      ∀ i, i < st.1.length → (st.1.getD i []).length = n ∧ (st.2.getD i []).length = m := by
  unfold Rect
  constructor
  · rintro ⟨h0, h1, h2⟩
    exact ⟨h0, fun i hi => ⟨h1 _ (getD_mem _ hi), h2 _ (getD_mem _ (h0 ▸ hi))⟩⟩
  · rintro ⟨h0, h⟩
    refine ⟨h0, fun r hr => ?_, fun r hr => ?_⟩
    · obtain ⟨i, hi, rfl⟩ := List.mem_iff_getElem.mp hr
      exact List.getD_eq_getElem _ _ hi ▸ (h i hi).1
    · obtain ⟨i, hi, rfl⟩ := List.mem_iff_getElem.mp hr
      exact List.getD_eq_getElem _ _ hi ▸ (h i (h0 ▸ hi)).2

/-- `st'` is rectangular like `st` and has exactly its solutions: what every step of `Gauss::solve_inner`
does to the augmented system -/
structure SameSols (n m : Nat) (st st' : Mat K × Mat K) : Prop where
  rect : Rect st' n m
  sat : ∀ X, Sat X m st' ↔ Sat X m st

theorem SameSols.refl {n m : Nat} {st : Mat K × Mat K} (hr : Rect st n m) : SameSols n m st st :=
  ⟨hr, fun _ => Iff.rfl⟩

theorem SameSols.trans {n m : Nat} {a b c : Mat K × Mat K} (h1 : SameSols n m a b) (h2 : SameSols n m b c) :
    SameSols n m a c :=
  ⟨h2.rect, fun X => (h2.sat X).trans (h1.sat X)⟩

theorem SameSols.sound {n m : Nat} {st st' : Mat K × Mat K} {X : Mat K} (h : SameSols n m st st')
    (hs : Sat X m st) : Rect st' n m ∧ Sat X m st' :=
  ⟨h.rect, (h.sat X).mpr hs⟩

theorem sat_congr {X : Mat K} {m : Nat} {st st' : Mat K × Mat K} (hlen : st'.1.length = st.1.length)
    (h : ∀ i, i < st.1.length → (RowSat X m (st'.1.getD i []) (st'.2.getD i []) ↔
      RowSat X m (st.1.getD i []) (st.2.getD i []))) :
    Sat X m st' ↔ Sat X m st :=
  ⟨fun hs i hi => (h i hi).mp (hs i (hlen ▸ hi)), fun hs i hi => (h i (hlen ▸ hi)).mpr (hs i (hlen ▸ hi))⟩

theorem reduce_sat {m : Nat} {st : Mat K × Mat K} (hlen : st.1.length = st.2.length) (X : Mat K) :
    Sat X m (reduce st) ↔ Sat X m st := by
  refine sat_congr (by simp [reduce, hlen]) fun i hi => ?_
  simp only [reduce]
  rw [getD_zipWith [] [] _ hi (hlen ▸ hi), getD_zipWith [] [] _ hi (hlen ▸ hi)]
  exact rowSat_reduceRow

/-- **C15.reduce_sound** — `reduce` (normalising every row by its first non-zero entry) keeps every solution, for every system -/
theorem reduce_sound {X : Mat K} {m : Nat} {st : Mat K × Mat K} (hlen : st.1.length = st.2.length)
    (h : Sat X m st) : Sat X m (reduce st) :=
  (reduce_sat hlen X).mpr h

theorem reduce_same {n m : Nat} {st : Mat K × Mat K} (hr : Rect st n m) : SameSols n m st (reduce st) := by
  obtain ⟨h0, hrows⟩ := rect_iff.mp hr
  refine ⟨rect_iff.mpr ⟨by simp [reduce], fun i hi => ?_⟩, reduce_sat h0⟩
  have hi : i < st.1.length := by simpa [reduce, h0] using hi
  simp only [reduce]
  rw [getD_zipWith [] [] _ hi (h0 ▸ hi), getD_zipWith [] [] _ hi (h0 ▸ hi),
    (length_reduceRow _ _).1, (length_reduceRow _ _).2]
  exact hrows i hi

/-- an elementary row operation: every row `k` becomes row `k` minus `f k` times row `i`, and row `i`
itself stays (`f i = 0`) -/
theorem sameSols_rowOp {n m : Nat} {st : Mat K × Mat K} (i : Nat) (f : Nat → K) {FL FR : Nat → List K → List K}
    (hr : Rect st n m) (hi : i < st.1.length) (hf : f i = 0)
    (hL : ∀ k, FL k (st.1.getD k []) = elimRight (st.1.getD i []) (f k) (st.1.getD k []))
    (hR : ∀ k, FR k (st.2.getD k []) = elimRight (st.2.getD i []) (f k) (st.2.getD k [])) :
    SameSols n m st (st.1.mapIdx FL, st.2.mapIdx FR) := by
  obtain ⟨h0, hrows⟩ := rect_iff.mp hr
  have row : ∀ k, k < st.1.length →
      (st.1.mapIdx FL).getD k [] = elimRight (st.1.getD i []) (f k) (st.1.getD k []) ∧
      (st.2.mapIdx FR).getD k [] = elimRight (st.2.getD i []) (f k) (st.2.getD k []) := fun k hk =>
    ⟨(getD_mapIdx _ hk [] []).trans (hL k), (getD_mapIdx _ (h0 ▸ hk) [] []).trans (hR k)⟩
  have rowi := row i hi
  rw [hf, elimRight_zero, elimRight_zero] at rowi
  constructor
  · refine rect_iff.mpr ⟨by simp [h0], fun k hk => ?_⟩
    rw [List.length_mapIdx] at hk
    rw [(row k hk).1, (row k hk).2, length_elimRight, length_elimRight]
    exact hrows k hk
  · intro X
    -- once row `i` holds, old and new row `k` are equivalent
    have key : RowSat X m (st.1.getD i []) (st.2.getD i []) →
        (Sat X m (st.1.mapIdx FL, st.2.mapIdx FR) ↔ Sat X m st) := fun hrow =>
      sat_congr List.length_mapIdx fun k hk => by
        rw [(row k hk).1, (row k hk).2]
        exact rowSat_elimRight _ hrow ((hrows k hk).1.trans (hrows i hi).1.symm) (hrows k hk).2
    refine ⟨fun h => (key ?_).mp h, fun h => (key (h i hi)).mpr h⟩
    simpa only [rowi] using h i (List.length_mapIdx.symm ▸ hi)

theorem backfillRow_same {n m : Nat} (i : Nat) {st : Mat K × Mat K} (hr : Rect st n m) :
    SameSols n m st (backfillRow i st) := by
  unfold backfillRow
  simp only
  split
  · exact .refl hr
  · rename_i j p hf
    have hi : i < st.1.length := by
      by_contra hc
      rw [List.getD_eq_default _ _ (not_lt.mp hc)] at hf
      cases hf
    exact sameSols_rowOp i (fun k => if k < i then get st.1 k j / p else 0) hr hi (if_neg (lt_irrefl i))
      (fun k => ite_elimRight ..) (fun k => ite_elimRight ..)

theorem backfill_same {n m : Nat} {st : Mat K × Mat K} (hr : Rect st n m) : SameSols n m st (backfill st) := by
  unfold backfill
  generalize (List.range st.1.length).reverse = is
  induction is generalizing st with
  | nil => exact .refl hr
  | cons i is ih => exact (backfillRow_same i hr).trans (ih (backfillRow_same i hr).rect)

/-- **C15.backfill_sound** — `backfill` (clearing above the pivots) keeps every solution, for every rectangular system -/
theorem backfill_sound {X : Mat K} {n m : Nat} {st : Mat K × Mat K} (hr : Rect st n m)
    (h : Sat X m st) : Rect (backfill st) n m ∧ Sat X m (backfill st) :=
  (backfill_same hr).sound h

theorem elimLeft_eq_elimRight {k : Nat} {hl : List K} (l : List K) (hp : hl.getD k 0 ≠ 0)
    (hz : ∀ j, j < k → hl.getD j 0 = 0) :
    elimLeft k hl (l.getD k 0 / hl.getD k 0) l = elimRight hl (l.getD k 0 / hl.getD k 0) l := by
  unfold elimLeft elimRight
  rw [List.mapIdx_eq_mapIdx_iff]
  intro j hj
  split
  · rename_i hjk
    rw [hz j hjk, zero_mul, sub_zero]
  · split
    · rename_i hjk
      subst hjk
      rw [List.getD_eq_getElem _ _ hj, mul_div_cancel₀ _ hp, sub_self]
    · rfl

theorem clearBelow_same {n m : Nat} (h k : Nat) {st : Mat K × Mat K} (hr : Rect st n m) (hh : h < st.1.length)
    (hp : (st.1.getD h []).getD k 0 ≠ 0) (hz : ∀ j, j < k → (st.1.getD h []).getD j 0 = 0) :
    SameSols n m st (clearBelow h k st.1 st.2) := by
  unfold clearBelow
  exact sameSols_rowOp h (fun i => if h < i then get st.1 i k / (st.1.getD h []).getD k 0 else 0) hr hh
    (if_neg (lt_irrefl h))
    (fun i => by rw [elimLeft_eq_elimRight _ hp hz]; exact ite_elimRight ..) (fun i => ite_elimRight ..)

/-- **C15.clearBelow_sound** — one "clear rows below the pivot" step keeps every solution PROVIDED the pivot row is zero to the
left of the pivot column (the echelon invariant) and the pivot is non-zero -/
theorem clearBelow_sound {X : Mat K} {n m : Nat} (h k : Nat) {st : Mat K × Mat K} (hr : Rect st n m)
    (hs : Sat X m st) (hh : h < st.1.length)
    (hp : (st.1.getD h []).getD k 0 ≠ 0) (hz : ∀ j, j < k → (st.1.getD h []).getD j 0 = 0) :
    Rect (clearBelow h k st.1 st.2) n m ∧ Sat X m (clearBelow h k st.1 st.2) :=
  (clearBelow_same h k hr hh hp hz).sound hs

theorem getD_swapRows {M : Mat K} {i j : Nat} (k : Nat) (hi : i < M.length) (hj : j < M.length) :
    (swapRows M i j).getD k [] = M.getD (Equiv.swap j i k) [] := by
  rw [Equiv.swap_apply_def, apply_ite (M.getD · []), apply_ite (M.getD · [])]
  unfold swapRows
  simp only [List.getD_eq_getElem?_getD, List.getElem?_set, List.length_set]
  by_cases h1 : j = k
  · subst h1; simp [hj]
  · by_cases h2 : i = k
    · subst h2; simp [h1, hi, Ne.symm h1]
    · simp [h1, h2, Ne.symm h1, Ne.symm h2]

theorem swap_lt {M : Mat K} {i j k : Nat} (hi : i < M.length) (hj : j < M.length) (hk : k < M.length) :
    Equiv.swap j i k < M.length := by
  rw [Equiv.swap_apply_def]
  split_ifs <;> assumption

theorem swapRows_self (M : Mat K) (i : Nat) : swapRows M i i = M := by
  unfold swapRows
  simp only
  rcases lt_or_ge i M.length with h | h
  · rw [List.getD_eq_getElem _ _ h, List.set_getElem_self, List.set_getElem_self]
  · rw [List.set_eq_of_length_le h, List.set_eq_of_length_le h]

theorem length_swapRows (M : Mat K) (i j : Nat) : (swapRows M i j).length = M.length := by
  simp [swapRows]

theorem swapRows_sat {m : Nat} {i j : Nat} {st : Mat K × Mat K} (hlen : st.1.length = st.2.length)
    (hi : i < st.1.length) (hj : j < st.1.length) (X : Mat K) :
    Sat X m (swapRows st.1 i j, swapRows st.2 i j) ↔ Sat X m st := by
  constructor
  · intro h k hk
    have := h (Equiv.swap j i k) ((length_swapRows st.1 i j).symm ▸ swap_lt hi hj hk)
    simp only at this
    rwa [getD_swapRows _ hi hj, getD_swapRows _ (hlen ▸ hi) (hlen ▸ hj),
      Equiv.swap_apply_self] at this
  · intro h k hk
    simp only
    rw [getD_swapRows _ hi hj, getD_swapRows _ (hlen ▸ hi) (hlen ▸ hj)]
    exact h _ (swap_lt hi hj (length_swapRows st.1 i j ▸ hk))

/-- **C15.swapRows_sound** — swapping two rows (on both sides) keeps every solution -/
theorem swapRows_sound {X : Mat K} {m : Nat} (i j : Nat) {st : Mat K × Mat K}
    (hlen : st.1.length = st.2.length) (hi : i < st.1.length) (hj : j < st.1.length)
    (hs : Sat X m st) : Sat X m (swapRows st.1 i j, swapRows st.2 i j) :=
  (swapRows_sat hlen hi hj X).mpr hs

theorem swapRows_same {n m : Nat} {i j : Nat} {st : Mat K × Mat K} (hr : Rect st n m) (hi : i < st.1.length)
    (hj : j < st.1.length) : SameSols n m st (swapRows st.1 i j, swapRows st.2 i j) := by
  obtain ⟨h0, hrows⟩ := rect_iff.mp hr
  refine ⟨rect_iff.mpr ⟨by simp [swapRows, h0], fun k hk => ?_⟩, swapRows_sat h0 hi hj⟩
  simp only
  rw [getD_swapRows _ hi hj, getD_swapRows _ (h0 ▸ hi) (h0 ▸ hj)]
  exact hrows _ (swap_lt hi hj (length_swapRows st.1 i j ▸ hk))

/-! History: with the pivot rule sage had before the repair (largest SIGNED value, column skipped when
that maximum was `0.0`) `echelon` could lose solutions (`y = 2, −x + y = 1` became a system containing
`0 = 1`), fail on the SPD matrix `[[1,2,0],[2,5,0],[0,0,1]]`, and choose a regulariser-sized pivot
(`-ε/2` over `-10⁶`: multiplier `2·10¹⁴`). -/

/-- rows `≥ h` are zero in the columns `< k` (the echelon invariant) -/
def EchInv (h k : Nat) (L : Mat K) : Prop := ∀ i, h ≤ i → ∀ j, j < k → get L i j = 0

/-- the run of the `echelon` loop from this state never skips a column that still has a non-zero
entry in a row `≥ h`, and always finds its pivot among the rows `h..m` (mirrors `echelonLoop`) -/
def GoodRun (m n : Nat) : Nat → Nat → Nat → Mat K × Mat K → Prop
  | 0, _, _, _ => True
  | fuel + 1, h, k, (left, right) =>
    if h < m ∧ k < n then
      if isZero (get left (findMax left k h m).1 k) then
        (∀ r, h ≤ r → r < m → get left r k = 0) ∧ GoodRun m n fuel h (k + 1) (left, right)
      else
        h ≤ (findMax left k h m).1 ∧ (findMax left k h m).1 < m ∧
        GoodRun m n fuel (h + 1) (k + 1)
          (clearBelow h k
            (if h ≠ (findMax left k h m).1 then (swapRows left h (findMax left k h m).1, swapRows right h (findMax left k h m).1) else (left, right)).1
            (if h ≠ (findMax left k h m).1 then (swapRows left h (findMax left k h m).1, swapRows right h (findMax left k h m).1) else (left, right)).2)
    else True

theorem get_of_length_le (L : Mat K) (i j : Nat) (h : L.length ≤ i) : get L i j = 0 := by
  rw [get, List.getD_eq_default _ _ h, List.getD_nil]

theorem echInv_swapRows {h k : Nat} {L : Mat K} {i : Nat} (hinv : EchInv h k L) (hhi : h ≤ i)
    (hh : h < L.length) (hi : i < L.length) : EchInv h k (swapRows L h i) := by
  intro r hr j hj
  unfold get
  rw [getD_swapRows _ hh hi]
  refine hinv _ ?_ j hj
  rw [Equiv.swap_apply_def]
  split_ifs <;> first | assumption | exact le_rfl

theorem getD_elimLeft {k : Nat} (hl l : List K) (f : K) {j : Nat} (hj : j ≤ k) :
    (elimLeft k hl f l).getD j 0 = if j < k then l.getD j 0 else 0 := by
  unfold elimLeft
  simp only [List.getD_eq_getElem?_getD, List.getElem?_mapIdx]
  cases l[j]? with
  | none => simp
  | some y =>
    simp only [Option.map_some, Option.getD_some]
    split
    · rfl
    · rename_i hjk
      rw [if_pos (le_antisymm hj (not_lt.mp hjk))]

theorem echInv_clearBelow {h k : Nat} {L R : Mat K} (hinv : EchInv h k L) :
    EchInv (h + 1) (k + 1) (clearBelow h k L R).1 := by
  intro i hi j hj
  by_cases hlen : i < L.length
  · unfold clearBelow get
    simp only
    rw [getD_mapIdx _ hlen [] [], if_pos (Nat.lt_of_succ_le hi), getD_elimLeft _ _ _ (Nat.le_of_lt_succ hj)]
    split
    · exact hinv i (Nat.le_of_succ_le hi) j ‹_›
    · rfl
  · apply get_of_length_le
    simpa [clearBelow] using not_lt.mp hlen

theorem swap_ite (L R : Mat K) (h i : Nat) :
    (if h ≠ i then (swapRows L h i, swapRows R h i) else (L, R)) = (swapRows L h i, swapRows R h i) := by
  split
  · rfl
  · rename_i hne
    rw [← not_not.mp hne, swapRows_self, swapRows_self]

theorem pivotStep_same {n m : Nat} {st : Mat K × Mat K} {h k i : Nat} (hr : Rect st n m) (hinv : EchInv h k st.1)
    (hhi : h ≤ i) (hi : i < st.1.length) (hp : get st.1 i k ≠ 0) :
    SameSols n m st (clearBelow h k (swapRows st.1 h i) (swapRows st.2 h i)) ∧
      EchInv (h + 1) (k + 1) (clearBelow h k (swapRows st.1 h i) (swapRows st.2 h i)).1 ∧
      (clearBelow h k (swapRows st.1 h i) (swapRows st.2 h i)).1.length = st.1.length := by
  have hh : h < st.1.length := lt_of_le_of_lt hhi hi
  have hsw := swapRows_same hr hh hi
  have hinv' := echInv_swapRows hinv hhi hh hi
  refine ⟨hsw.trans (clearBelow_same (st := (swapRows st.1 h i, swapRows st.2 h i)) h k hsw.rect
      (length_swapRows st.1 h i ▸ hh) (by rwa [getD_swapRows _ hh hi, Equiv.swap_apply_right])
      (hinv' h le_rfl)), echInv_clearBelow hinv',
    List.length_mapIdx.trans (length_swapRows _ _ _)⟩

theorem echelonLoop_same {nn mm : Nat} {m n fuel h k : Nat} {st : Mat K × Mat K} (hr : Rect st nn mm)
    (hm : st.1.length = m) (hinv : EchInv h k st.1) (hg : GoodRun m n fuel h k st) :
    SameSols nn mm st (echelonLoop m n fuel h k st) := by
  induction fuel generalizing h k st with
  | zero => exact .refl hr
  | succ fuel ih =>
    obtain ⟨L, R⟩ := st
    simp only [GoodRun, echelonLoop, swap_ite] at hg ⊢
    split
    · rename_i hc
      rw [if_pos hc] at hg
      split
      · rename_i hz
        rw [if_pos hz] at hg
        refine ih hr hm ?_ hg.2
        -- column `k` is zero from row `h` on
        intro i hi j hj
        rcases Nat.lt_succ_iff_lt_or_eq.mp hj with hjk | rfl
        · exact hinv i hi j hjk
        · rcases lt_or_ge i m with him | him
          · exact hg.1 i hi him
          · exact get_of_length_le _ _ _ (hm ▸ him)
      · rename_i hz
        rw [if_neg hz] at hg
        obtain ⟨hhi, him, hg'⟩ := hg
        obtain ⟨hs, hinv', hlen⟩ := pivotStep_same (st := (L, R)) hr hinv hhi (hm ▸ him)
          fun h0 => hz ((isZero_iff _).mpr h0)
        exact hs.trans (ih hs.rect (hlen.trans hm) hinv' hg')
    · exact .refl hr

/-- **C15.echelonLoop_sound** (partial: hypothesis `GoodRun`) — the `echelon` loop keeps every solution along a `GoodRun` (no
column with a non-zero entry is skipped, pivots are found among the rows `h..m`) started from a state
that satisfies the echelon invariant. -/
theorem echelonLoop_sound {X : Mat K} {nn mm : Nat} (m n : Nat) (fuel h k : Nat)
    (st : Mat K × Mat K) (hr : Rect st nn mm) (hm : st.1.length = m) (hinv : EchInv h k st.1)
    (hg : GoodRun m n fuel h k st) (hs : Sat X mm st) :
    Rect (echelonLoop m n fuel h k st) nn mm ∧ Sat X mm (echelonLoop m n fuel h k st) :=
  (echelonLoop_same hr hm hinv hg).sound hs

/-- **C15.echelonLoop_complete** — along a `GoodRun` the `echelon` loop loses no equation either: every
solution of the eliminated system solves the original one (the converse of `echelonLoop_sound`) -/
theorem echelonLoop_complete {X : Mat K} {nn mm : Nat} (m n : Nat) (fuel h k : Nat)
    (st : Mat K × Mat K) (hr : Rect st nn mm) (hm : st.1.length = m) (hinv : EchInv h k st.1)
    (hg : GoodRun m n fuel h k st) :
    Rect (echelonLoop m n fuel h k st) nn mm ∧
      (Sat X mm (echelonLoop m n fuel h k st) → Sat X mm st) := by
  have same := echelonLoop_same hr hm hinv hg
  exact ⟨same.rect, (same.sat X).mp⟩

/-- the final state of `solve_inner` (before the `left_solved` test) -/
def finalState (c : Consts K) (n : Nat) (A B : Mat K) (eps : K) : Mat K × Mat K :=
  backfill (reduce (echelon n (fillZero eps A, B)))

theorem solveInner_eq_some {c : Consts K} {n : Nat} {A B : Mat K} {eps : K} {X' : Mat K} :
    solveInner c n A B eps = some X' ↔
      leftSolved c.tol n (finalState c n A B eps).1 = true ∧ (finalState c n A B eps).2 = X' := by
  unfold solveInner finalState
  simp only
  split
  · rename_i h; simp [h]
  · rename_i h; simp [h]

theorem finalState_same (c : Consts K) (n : Nat) {nn mm : Nat} {A B : Mat K} {eps : K}
    (hr : Rect (fillZero eps A, B) nn mm) (hg : GoodRun A.length n n 0 0 (fillZero eps A, B)) :
    SameSols nn mm (fillZero eps A, B) (finalState c n A B eps) := by
  have hlen : (fillZero eps A).length = A.length := List.length_mapIdx
  have he : SameSols nn mm (fillZero eps A, B) (echelon n (fillZero eps A, B)) := by
    unfold echelon
    exact echelonLoop_same hr rfl (fun _ _ _ hj => absurd hj (Nat.not_lt_zero _)) (hlen ▸ hg)
  exact he.trans ((reduce_same he.rect).trans (backfill_same (reduce_same he.rect).rect))

/-- **C15.solve_sound_partial** — if `solve_inner` returns `X'` for the regulariser `eps`, and the elimination was a `GoodRun`, then
EVERY exact solution `X` of the regularised system `(A + eps·I) X = B` also solves the final system
`L X = X'`, where `L` is the final left side, which `left_solved` accepted (identity up to `tol`, or
zero rows — `leftSolved_spec`). So the returned `X'` is `L X`: the solution up to the accepted
residue of `L`. The `GoodRun` hypothesis always holds (`goodRun_always`), whence `solve_sound`. -/
theorem solve_sound_partial (c : Consts K) (n nn mm : Nat) (A B : Mat K) (eps : K) (X X' : Mat K)
    (hr : Rect (fillZero eps A, B) nn mm)
    (hg : GoodRun A.length n n 0 0 (fillZero eps A, B))
    (hX : Sat X mm (fillZero eps A, B))
    (hsol : solveInner c n A B eps = some X') :
    ∃ L : Mat K, leftSolved c.tol n L = true ∧ Sat X mm (L, X') := by
  obtain ⟨hls, hX'⟩ := solveInner_eq_some.mp hsol
  subst hX'
  exact ⟨_, hls, ((finalState_same c n hr hg).sat X).mpr hX⟩

/-- **C15.solve_equiv** — along a `GoodRun`, the system `solve_inner` ends on has EXACTLY the solutions of
the regularised system `(A + eps·I) X = B` (both directions: `solve_sound_partial` and its converse) -/
theorem solve_equiv (c : Consts K) (n nn mm : Nat) (A B : Mat K) (eps : K) (X : Mat K)
    (hr : Rect (fillZero eps A, B) nn mm)
    (hg : GoodRun A.length n n 0 0 (fillZero eps A, B)) :
    Sat X mm (fillZero eps A, B) ↔ Sat X mm (finalState c n A B eps) :=
  ((finalState_same c n hr hg).sat X).symm

instance goodRunDec (m n : Nat) : ∀ fuel h k (st : Mat K × Mat K), Decidable (GoodRun m n fuel h k st)
  | 0, _, _, _ => isTrue trivial
  | fuel + 1, h, k, (left, right) => by
    unfold GoodRun
    haveI := goodRunDec m n fuel
    infer_instance

instance (X : Mat K) (m : Nat) (l r : List K) : Decidable (RowSat X m l r) := by
  unfold RowSat; infer_instance
instance (X : Mat K) (m : Nat) (st : Mat K × Mat K) : Decidable (Sat X m st) := by
  unfold Sat; infer_instance
instance (st : Mat K × Mat K) (n m : Nat) : Decidable (Rect st n m) := by
  unfold Rect; infer_instance

/-- non-vacuity of `solve_sound_partial`: `[[2,1],[1,2]] X = [[1],[0]]` with `eps = 0`: the hypotheses
hold for the exact solution `X = (2/3, −1/3)`, and `solve_inner` succeeds -/
example : Rect (fillZero (0 : ℚ) [[2, 1], [1, 2]], [[1], [0]]) 2 1
    ∧ GoodRun 2 2 2 0 0 (fillZero (0 : ℚ) [[2, 1], [1, 2]], [[1], [0]])
    ∧ Sat [[2/3], [-1/3]] 1 (fillZero (0 : ℚ) [[2, 1], [1, 2]], [[1], [0]])
    ∧ solveInner cQ 2 [[2, 1], [1, 2]] [[1], [0]] 0 = some [[2/3], [-1/3]] := by
  decide +kernel

theorem dotl_single (l v : List K) (i : Nat) (h : ∀ j, j ≠ i → l.getD j 0 = 0) :
    dotl l v = l.getD i 0 * v.getD i 0 := by
  induction l generalizing v i with
  | nil => rw [dotl_nil_left, List.getD_nil, zero_mul]
  | cons x xs ih =>
    cases v with
    | nil => rw [dotl_nil_right, List.getD_nil, mul_zero]
    | cons z zs =>
      rw [dotl_cons]
      cases i with
      | zero =>
        -- the tail is zero everywhere: use the induction hypothesis at an index past its end
        rw [ih zs xs.length fun j _ => h (j + 1) (Nat.succ_ne_zero j), List.getD_eq_default _ _ le_rfl, zero_mul,
          add_zero]
        rfl
      | succ i =>
        rw [show x = 0 from h 0 (Nat.succ_ne_zero i).symm, ih zs i fun j hj => h (j + 1) fun e => hj (Nat.succ.inj e), zero_mul,
          zero_add]
        rfl

theorem getD_col (X : Mat K) (c i : Nat) : (col X c).getD i 0 = get X i c :=
  List.getD_map X [] fun r => r.getD c 0

theorem sat_unit_rows {n mm : Nat} {L X X' : Mat K} (hL : L.length = n)
    (hid : ∀ i, i < n → ∀ j, (L.getD i []).getD j 0 = if j = i then 1 else 0) :
    Sat X mm (L, X') ↔ ∀ i, i < n → ∀ c, c < mm → get X i c = get X' i c := by
  subst hL
  refine forall₂_congr fun i hi => forall₂_congr fun c _ => ?_
  rw [dotl_single _ _ i fun j hj => by rw [hid i hi, if_neg hj], hid i hi, if_pos rfl, one_mul, getD_col]
  rfl

/-- **C15.solve_unique** — when the final left side is exactly the identity, a system it stands for
has the right side as its only solution: `Sat X (I, X') → X = X'` entry by entry. Together with
`solve_sound_partial`: if `solve_inner` ends on the exact identity, the returned matrix IS the
solution of the regularised system, whenever that system has one. -/
theorem solve_unique (n mm : Nat) (L X X' : Mat K) (hL : L.length = n) (hX : X.length = n)
    (hrow : ∀ r ∈ L, r.length = n)
    (hid : ∀ i, i < n → ∀ j, (L.getD i []).getD j 0 = if j = i then 1 else 0)
    (hs : Sat X mm (L, X')) (i c : Nat) (hi : i < n) (hc : c < mm) :
    get X i c = get X' i c :=
  (sat_unit_rows hL hid).mp hs i hi c hc

example : Sat (K := ℚ) [[2/3], [-1/3]] 1 ([[1, 0], [0, 1]], [[2/3], [-1/3]]) := by decide +kernel

theorem dotl_map_div_right (xs ys : List K) (c : K) : dotl xs (ys.map (· / c)) = dotl xs ys / c := by
  simp only [div_eq_mul_inv, dotl_map_mul_right]

theorem foldl_sq_zero (v : List K) (h : ∀ x ∈ v, x = 0) : v.foldl (fun acc x => acc + x * x) 0 = 0 := by
  induction v with
  | nil => rfl
  | cons x xs ih =>
    have hx : x = 0 := h x List.mem_cons_self
    simp only [List.foldl_cons, hx, mul_zero, add_zero]
    exact ih fun y hy => h y (List.mem_cons_of_mem _ hy)

/-- **C15.powerMethod_stuck** — if the matrix sends the normalised start to the zero vector, `power_method` stops in its first
iteration and returns the normalised start -/
theorem powerMethod_stuck (sqrt : K → K) (tol : K) (htol : 0 < tol) (h0 : sqrt 0 = 0) (m : Mat K)
    (init : Vec K) (hz : ∀ x ∈ dotv m (init.map (· / norm sqrt init)), x = 0) :
    powerMethod sqrt tol m init = init.map (· / norm sqrt init) := by
  unfold powerMethod
  simp only
  unfold powerLoop powerStep
  simp only
  have hn : norm sqrt (dotv m (init.map (· / norm sqrt init))) = 0 := by
    show sqrt _ = 0
    rw [foldl_sq_zero _ hz, h0]
  rw [hn]
  have : absv ((0 : K) - 0) < tol := by simp [absv, htol]
  rw [if_pos this]

/-- **C15.start_orthogonal_not_fisher** — the unconditional reading of "the fitted direction is the
Fisher discriminant" is FALSE of the code: the power method starts from the overall mean `x̄`, and
when `x̄ ⟂ (mean_target − mean_decoy)` the product `S_w⁻¹ S_b x̄` is the zero vector, the loop breaks
in its first iteration and `train` returns `x̄/‖x̄‖`. Witness (targets (3,1),(5,1); decoys (1,3),(1,5)):
for EVERY `sqrt` with `sqrt 0 = 0`, `train` returns a vector with two EQUAL components, while
`S_w = I`, `d = (3,−3)` and the Fisher direction is `(1,−1)`. Reproduced on the real code:
`findings/C15-start-orthogonal.req`. -/
theorem start_orthogonal_not_fisher (sqrt : ℚ → ℚ) (h0 : sqrt 0 = 0) :
    ∃ a : ℚ, train cQ sqrt [[3, 1], [5, 1], [1, 3], [1, 5]] [false, false, true, true] 2 = some [a, a] := by
  have hs : stats (α := ℚ) [[3, 1], [5, 1], [1, 3], [1, 5]] [false, false, true, true] 2
      = ⟨[5/2, 5/2], [[1, 0], [0, 1]], [[9/2, -9/2], [-9/2, 9/2]], [1, 4], [4, 1]⟩ := by
    decide +kernel
  have hsolve : solve cQ 2 [[1, 0], [0, 1]] [[9/2, -9/2], [-9/2, 9/2]]
      = some [[450000000/100000001, -450000000/100000001], [-450000000/100000001, 450000000/100000001]] := by
    decide +kernel
  refine ⟨(5/2) / norm sqrt [5/2, 5/2], ?_⟩
  unfold train fit
  rw [hs]
  simp only [hsolve]
  rw [powerMethod_stuck sqrt cQ.tol (by decide +kernel) h0]
  · -- both class means project equally on a vector with two equal components: no sign flip
    rw [orient, if_neg]
    · rfl
    · apply not_lt.mpr (le_of_eq _)
      simp only [List.map_cons, List.map_nil, dotl_cons, dotl_nil_left]
      ring
  · intro x hx
    generalize (450000000 : ℚ) = c at hx
    simp only [dotv, List.map_cons, List.map_nil, List.mem_cons, List.not_mem_nil, or_false, dotl_cons,
      dotl_nil_left] at hx
    rcases hx with rfl | rfl <;> ring

/-- the Fisher direction of that witness: `S_w = I`, `d = (3,−3)` -/
example : Q.solveExact (stats (α := ℚ) [[3, 1], [5, 1], [1, 3], [1, 5]] [false, false, true, true] 2).sw
    [[3], [-3]] = some [[3], [-3]] := by decide +kernel

/-- **C15.former_spd_witness_solved** — the symmetric positive definite system
`[[1,2,0],[2,5,0],[0,0,1]] X = (1,1,1)`, on which the solver with the former (signed-max) pivot rule reported
failure for every regulariser, is solved at the first regulariser with pivoting by magnitude, and the result
solves `(A + ε₀I) X = B` exactly (regression witness; the real code: `corpus/C15/observation-spurious-failure-block-diagonal.req`) -/
theorem former_spd_witness_solved :
    ∃ X, solve cQ 3 [[1, 2, 0], [2, 5, 0], [0, 0, 1]] [[1], [1], [1]] = some X ∧
      Sat (K := ℚ) X 1 (fillZero cQ.eps0 [[1, 2, 0], [2, 5, 0], [0, 0, 1]], [[1], [1], [1]]) := by
  refine ⟨[[30000000100000000 / 10000000600000001], [-9999999900000000 / 10000000600000001],
    [100000000 / 100000001]], ?_, ?_⟩
  · decide +kernel
  · decide +kernel

/-- **C15.train_none_of_solve_none** — when `Gauss::solve` reports failure (every regulariser of the ladder
rejected), `train` returns `None`: no direction is fabricated. -/
theorem train_none_of_solve_none (c : Consts K) (sqrt : K → K) (feats : Mat K) (decoy : List Bool) (p : Nat)
    (h : solve c p (stats feats decoy p).sw (stats feats decoy p).sb = none) :
    train c sqrt feats decoy p = none := by
  unfold train fit; rw [h]

/-- **C15.unfit_untouched** — whenever `score_psms` returns `None` (the solver failed, or the eigenvector is
not finite) every PSM keeps the `discriminant_score` / `posterior_error` it had: the model-level statement
behind C14's correspondence clause `bad:unfit_modified` (a failed fit must leave the values `Scorer`
initialised, 0.0 and 1.0) and behind the fallback of `Runner::spectrum_fdr` starting from untouched PSMs. -/
theorem unfit_untouched (c : Consts K) (sqrt : K → K) (isFinite : K → Bool) (pepOf : K → K)
    (feats : Mat K) (decoy : List Bool) (p : Nat) (old : List (K × K))
    (h : (scorePsmsOutcome c sqrt isFinite pepOf feats decoy p old).1 = none) :
    (scorePsmsOutcome c sqrt isFinite pepOf feats decoy p old).2 = old := by
  unfold scorePsmsOutcome at h ⊢
  split
  · rfl
  · rename_i w hw; rw [hw] at h; simp at h

/-- …in particular when the solver fails -/
theorem unfit_of_solve_none (c : Consts K) (sqrt : K → K) (isFinite : K → Bool) (pepOf : K → K)
    (feats : Mat K) (decoy : List Bool) (p : Nat) (old : List (K × K))
    (h : solve c p (stats feats decoy p).sw (stats feats decoy p).sb = none) :
    scorePsmsOutcome c sqrt isFinite pepOf feats decoy p old = (none, old) := by
  unfold scorePsmsOutcome
  rw [train_none_of_solve_none c sqrt feats decoy p h]
  rfl

/-- non-vacuity. In exact arithmetic `S_w + εI` is positive definite and, with pivoting by magnitude, the
solver cannot fail on it; `solve` returns `none` only when no regulariser of the ladder is tried or accepted —
here a constants record whose first regulariser already exceeds 1 (empty ladder). The PSMs keep `(0, 1)`. -/
example : scorePsmsOutcome (⟨1/100000000, 2, 10⟩ : Consts ℚ) id (fun _ => true) id
    [[6, 8, 6], [4, 4, 4], [1, 1, 1], [6, 6, 4], [4, 2, 6]] [false, false, true, false, false] 3
    [(0, 1), (0, 1), (0, 1), (0, 1), (0, 1)] = (none, [(0, 1), (0, 1), (0, 1), (0, 1), (0, 1)]) := by
  apply unfit_of_solve_none
  decide +kernel

theorem length_powerLoop (sqrt : K → K) (tol : K) (m : Mat K) (fuel : Nat) (v : Vec K) (last : K)
    (h : m.length = v.length) : (powerLoop sqrt tol m fuel v last).length = v.length := by
  induction fuel generalizing v last with
  | zero => rfl
  | succ fuel ih =>
    rw [powerLoop, powerStep]
    split
    · rfl
    · rename_i v' last' he
      split at he
      · cases he
      · cases he
        rw [ih, List.length_map, dotv, List.length_map, h]
        rw [List.length_map, dotv, List.length_map]

theorem length_orient (a b v : Vec K) : (orient a b v).length = v.length := by
  unfold orient
  split
  · exact List.length_map _
  · rfl

/-- …and when the guard rejects the eigenvector. A guard that accepts no number rejects every vector with an
entry, and when the solver returns `p + 1` rows the eigenvector has `p + 1` entries whatever `sqrt` and the
power iterations make of them. -/
theorem unfit_of_guard_false {c : Consts K} {sqrt pepOf : K → K} {feats : Mat K} {decoy : List Bool} {p : Nat}
    {old : List (K × K)}
    (h : (solve c (p + 1) (stats feats decoy (p + 1)).sw (stats feats decoy (p + 1)).sb).map List.length
      = some (p + 1)) :
    scorePsmsOutcome c sqrt (fun _ => false) pepOf feats decoy (p + 1) old = (none, old) := by
  obtain ⟨M, hM, hlen⟩ := Option.map_eq_some_iff.mp h
  have key : ∀ w : Vec K, w.length = p + 1 → guardFinite (fun _ => false) (some w) = none := by
    rintro (_ | ⟨a, w⟩) hw
    · cases hw
    · rfl
  unfold scorePsmsOutcome train fit
  rw [hM]
  simp only
  rw [key]
  -- left to show: the eigenvector has `p + 1` entries
  rw [length_orient, powerMethod, length_powerLoop, List.length_map]
  · exact mean_length _ _
  · rw [hlen, List.length_map]
    exact (mean_length _ _).symm

/-- non-vacuity of `unfit_untouched` through the other exit: a non-finite eigenvector (guard) -/
example : scorePsmsOutcome cQ id (fun _ => false) id
    [[6, 8, 6], [4, 4, 4], [1, 1, 1], [6, 6, 4], [4, 2, 6]] [false, false, true, false, false] 3
    [(0, 1), (0, 1), (0, 1), (0, 1), (0, 1)] = (none, [(0, 1), (0, 1), (0, 1), (0, 1), (0, 1)]) := by
  -- evaluates `stats` and `solve` only: running the fifty power iterations (`sqrt := id`) costs four times as much
  apply unfit_of_guard_false
  decide +kernel

/-- what the model needs of `sqrt`: the root of a square of a non-negative number is that number
(`Real.sqrt`, and `Rat.sqrt` on ℚ, satisfy it; nothing is asked on non-squares) -/
def IsSqrt (sqrt : K → K) : Prop := ∀ r, 0 ≤ r → sqrt (r * r) = r

/-- `Σ xᵢ²` as `ml::norm` accumulates it -/
def sumsq (v : List K) : K := v.foldl (fun acc x => acc + x * x) 0

theorem sumsq_eq_sum (v : List K) : sumsq v = (v.map fun x => x * x).sum := by
  rw [List.sum_eq_foldl, List.foldl_map]
  rfl

theorem sumsq_cons (x : K) (xs : List K) : sumsq (x :: xs) = x * x + sumsq xs := by
  rw [sumsq_eq_sum, sumsq_eq_sum, List.map_cons, List.sum_cons]

theorem sumsq_nonneg (v : List K) : 0 ≤ v.foldl (fun acc x => acc + x * x) 0 := by
  change 0 ≤ sumsq v
  induction v with
  | nil => exact le_rfl
  | cons x xs ih => rw [sumsq_cons]; exact add_nonneg (mul_self_nonneg x) ih

theorem sumsq_smul (v : List K) (c : K) : sumsq (v.map (· * c)) = c * c * sumsq v := by
  induction v with
  | nil => exact (mul_zero _).symm
  | cons x xs ih => rw [List.map_cons, sumsq_cons, sumsq_cons, ih]; ring

theorem norm_of_sq {sqrt : K → K} (hs : IsSqrt sqrt) (u : List K) (r : K) (hr : 0 ≤ r)
    (hq : sumsq u = r * r) : norm sqrt u = r :=
  (congrArg sqrt hq).trans (hs r hr)

theorem norm_smul {sqrt : K → K} (hs : IsSqrt sqrt) {u : List K} {r : K} (hr : 0 ≤ r)
    (hq : sumsq u = r * r) (c : K) : norm sqrt (u.map (· * c)) = |c| * r := by
  apply norm_of_sq hs _ _ (mul_nonneg (abs_nonneg c) hr)
  rw [sumsq_smul, hq, ← abs_mul_abs_self c]
  ring

/-- the rank-one matrix `u wᵀ` -/
def outer (u w : List K) : Mat K := u.map fun a => w.map fun b => a * b

theorem powerStep_rank_one {sqrt : K → K} (hs : IsSqrt sqrt) {tol : K} {u w v : List K} {last : K}
    {N : K} (hN : 0 ≤ N) (hq : sumsq u = N * N) :
    powerStep sqrt tol (outer u w) v last =
      if |(|dotl w v| * N - last)| < tol then none
      else some (u.map (· * (dotl w v / (|dotl w v| * N))), |dotl w v| * N) := by
  unfold powerStep outer
  simp only [absv_eq_abs]
  rw [rank_one_step, norm_smul hs hN hq, List.map_map]
  simp only [Function.comp_def, mul_div_assoc]

theorem abs_div_abs_mul {s N : K} (h : 0 < |s| * N) : |s / (|s| * N)| * N = 1 := by
  rw [abs_div, abs_of_pos h, div_mul_eq_mul_div, div_self h.ne']

/-- from a unit-length multiple `c·u`, whatever the last norm, the loop returns a unit-length multiple of `u`:
the image of such a vector has norm `|w·u|`, so the loop stops now or in the next iteration, where that norm repeats -/
theorem powerLoop_rank_one {sqrt : K → K} (hs : IsSqrt sqrt) {tol : K} (htol : 0 < tol) {u w : List K} {N : K}
    (hN : 0 ≤ N) (hq : sumsq u = N * N) (hwu : dotl w u ≠ 0) (fuel : Nat) (c last : K) (hc : |c| * N = 1) :
    ∃ t : K, |t| * N = 1 ∧ powerLoop sqrt tol (outer u w) (fuel + 2) (u.map (· * c)) last = u.map (· * t) := by
  have hnorm : ∀ c : K, |c| * N = 1 → |dotl w u * c| * N = |dotl w u| := fun c hc => by
    rw [abs_mul, mul_assoc, hc, mul_one]
  have ht := abs_div_abs_mul (lt_of_lt_of_eq (abs_pos.mpr hwu) (hnorm c hc).symm)
  rw [powerLoop, powerStep_rank_one hs hN hq, dotl_map_mul_right]
  split_ifs
  · exact ⟨c, hc, rfl⟩
  · refine ⟨_, ht, ?_⟩
    dsimp only
    rw [powerLoop, powerStep_rank_one hs hN hq, dotl_map_mul_right, hnorm _ ht, hnorm c hc, sub_self,
      abs_zero, if_pos htol]

/-- **C15.powerMethod_rank_one** — on a rank-one matrix `u wᵀ` with `u ≠ 0`, `w·u ≠ 0`, from a start `v₀`
with `w·v₀ ≠ 0` whose first image is not below the stopping threshold (`tol ≤ |w·v₀/‖v₀‖|·‖u‖`), the power
method returns `±u/‖u‖`: `u` scaled by some `t` with `|t|·N = 1`, `N = ‖u‖` (`Σuᵢ² = N²`, `N > 0`). It gets there in ONE step and stops at
the latest in the third iteration. Positive counterpart of `powerMethod_stuck` (`w·v₀ = 0`) and of the
early stop when the first image is below `tol` (`findings/C15-tiny-scale-early-stop.req`). -/
theorem powerMethod_rank_one {sqrt : K → K} (hs : IsSqrt sqrt) (tol : K) (htol : 0 < tol)
    (u w init : List K) (N : K) (hN0 : 0 < N) (hq : sumsq u = N * N) (hwu : dotl w u ≠ 0)
    (hstart : dotl w (init.map (· / norm sqrt init)) ≠ 0)
    (hscale : tol ≤ absv (dotl w (init.map (· / norm sqrt init))) * N) :
    ∃ t : K, absv t * N = 1 ∧ powerMethod sqrt tol (outer u w) init = u.map (· * t) := by
  simp only [absv_eq_abs] at hscale ⊢
  unfold powerMethod
  -- iteration 1 does not stop (`hscale`) and lands on a unit-length multiple of `u`
  rw [show (50 : Nat) = 47 + 2 + 1 from rfl, powerLoop, powerStep_rank_one hs hN0.le hq, sub_zero,
    abs_of_pos (htol.trans_le hscale), if_neg (not_lt.mpr hscale)]
  exact powerLoop_rank_one hs htol hN0.le hq hwu 47 _ _ (abs_div_abs_mul (htol.trans_le hscale))

theorem isSqrt_ratSqrt : IsSqrt Rat.sqrt := by
  intro r hr; rw [Rat.sqrt_eq, abs_of_nonneg hr]

/-- non-vacuity over ℚ with `Rat.sqrt`: `u = (3,4)` (`N = 5`), `w = (1,2)`, start `(6,8)` -/
example : ∃ t : ℚ, absv t * 5 = 1 ∧
    powerMethod Rat.sqrt (1/100000000) (outer [3, 4] [1, 2]) [6, 8] = ([3, 4] : List ℚ).map (· * t) := by
  apply powerMethod_rank_one isSqrt_ratSqrt _ (by decide +kernel) _ _ _ 5 (by decide +kernel)
  · decide +kernel
  · decide +kernel
  · decide +kernel
  · decide +kernel

/-- **C15.train_fisher_of_rank_one** — the model-level statement that `train` returns the Fisher direction:
whenever the solver's result has the rank-one form `g wᵀ` (in exact arithmetic it is
`(S_w+εI)⁻¹ S_b = g (c d)ᵀ` with `g = (S_w+εI)⁻¹ d` by `between_rank_one`; that the solver returns exactly
that is `solve_exact_of_identity` under its hypotheses), the start `x̄` is not orthogonal to `w` (`= c d`:
`x̄·d ≠ 0`), `w·g ≠ 0` (`dᵀ(S_w+εI)⁻¹d > 0` for SPD) and the first image is not below the stopping
threshold, `train` returns `g` scaled by `t` with `|t|·N = 1`, `N = ‖g‖`: the Fisher direction, normalised, up to the
sign that `orientation` then fixes. -/
theorem train_fisher_of_rank_one {sqrt : K → K} (hs : IsSqrt sqrt) (c : Consts K) (htol : 0 < c.tol)
    (feats : Mat K) (decoy : List Bool) (p : Nat) (g w : List K) (N : K) (hN0 : 0 < N) (hq : sumsq g = N * N)
    (hsolve : solve c p (stats feats decoy p).sw (stats feats decoy p).sb = some (outer g w))
    (hwg : dotl w g ≠ 0)
    (hstart : dotl w ((stats feats decoy p).xbar.map (· / norm sqrt (stats feats decoy p).xbar)) ≠ 0)
    (hscale : c.tol ≤ absv (dotl w ((stats feats decoy p).xbar.map (· / norm sqrt (stats feats decoy p).xbar))) * N) :
    ∃ t : K, absv t * N = 1 ∧ train c sqrt feats decoy p = some (g.map (· * t)) := by
  obtain ⟨t, ht, hp⟩ := powerMethod_rank_one hs c.tol htol g w (stats feats decoy p).xbar N hN0 hq hwg hstart hscale
  unfold train fit
  rw [hsolve]
  simp only
  rw [hp]
  unfold orient
  split
  · refine ⟨-t, by rwa [absv_eq_abs, abs_neg, ← absv_eq_abs], ?_⟩
    simp only [List.map_map, Function.comp_def, mul_neg, mul_one]
  · exact ⟨t, ht, rfl⟩

/-- non-vacuity over ℚ with `Rat.sqrt`: one feature, targets 3, 5, decoys 1, 2: every hypothesis holds
(`g = (312500000/125000001)`, `w = (1)`), so `train` returns `g·t` with `|t|·‖g‖ = 1`, i.e. `(±1)` -/
example : ∃ t : ℚ, absv t * (312500000 / 125000001) = 1 ∧
    train cQ Rat.sqrt [[3], [1], [5], [2]] [false, true, false, true] 1
      = some (([312500000 / 125000001] : List ℚ).map (· * t)) := by
  apply train_fisher_of_rank_one isSqrt_ratSqrt cQ (by decide +kernel) _ _ _ _ [1] _ (by decide +kernel)
  · decide +kernel
  · decide +kernel
  · decide +kernel
  · decide +kernel
  · decide +kernel

theorem argmax_fold (g : Nat → K) (l : List Nat) (i0 : Nat) (r : Nat × K)
    (hr : l.foldl (fun mx i => if mx.2 ≤ g i then (i, g i) else mx) (i0, g i0) = r) :
    r.2 = g r.1 ∧ g i0 ≤ r.2 ∧ (∀ j ∈ l, g j ≤ r.2) ∧ (r.1 = i0 ∨ r.1 ∈ l) := by
  induction l generalizing i0 with
  | nil => subst hr; exact ⟨rfl, le_rfl, fun _ h => absurd h List.not_mem_nil, .inl rfl⟩
  | cons a as ih =>
    rw [List.foldl_cons] at hr
    split at hr
    · rename_i hle
      obtain ⟨h1, h2, h3, h4⟩ := ih a hr
      exact ⟨h1, hle.trans h2, fun j hj => (List.mem_cons.mp hj).elim (· ▸ h2) (h3 j),
        .inr (h4.elim (· ▸ List.mem_cons_self) (List.mem_cons_of_mem _))⟩
    · rename_i hle
      obtain ⟨h1, h2, h3, h4⟩ := ih i0 hr
      exact ⟨h1, h2, fun j hj => (List.mem_cons.mp hj).elim (· ▸ (le_of_not_ge hle).trans h2) (h3 j),
        h4.imp_right (List.mem_cons_of_mem _)⟩

/-- **C15.pivot_maximal_abs** — the pivot search returns a row of the segment `h..m` whose entry in column
`k` has the largest magnitude of the segment (textbook partial pivoting) -/
theorem pivot_maximal_abs (left : Mat K) (k h m : Nat) (hm : h < m) :
    h ≤ (findMax left k h m).1 ∧ (findMax left k h m).1 < m ∧
    (findMax left k h m).2 = absv (get left (findMax left k h m).1 k) ∧
    ∀ r, h ≤ r → r < m → absv (get left r k) ≤ absv (get left (findMax left k h m).1 k) := by
  -- row `h` is the first candidate and always replaces the start value `(h, 0)`
  obtain ⟨d, rfl⟩ := Nat.exists_eq_add_of_lt hm
  obtain ⟨h1, h2, h3, h4⟩ := argmax_fold (fun i => absv (get left i k)) (List.range' (h + 1) d) h
    (findMax left k h (h + d + 1)) (by
      unfold findMax
      rw [Nat.add_assoc, Nat.add_sub_cancel_left, List.range'_succ, List.foldl_cons]
      dsimp only
      rw [if_pos ((abs_nonneg _).trans_eq (absv_eq_abs _).symm)])
  generalize findMax left k h (h + d + 1) = best at h1 h2 h3 h4 ⊢
  have hmem : h ≤ best.1 ∧ best.1 < h + d + 1 := by
    rcases h4 with e | hin
    · rw [e]; exact ⟨le_rfl, hm⟩
    · have := List.mem_range'_1.mp hin
      exact ⟨Nat.le_of_succ_le this.1, Nat.add_right_comm h 1 d ▸ this.2⟩
  refine ⟨hmem.1, hmem.2, h1, fun r hr hr' => ?_⟩
  rw [← h1]
  rcases Nat.eq_or_lt_of_le hr with rfl | hlt
  · exact h2
  · exact h3 r (List.mem_range'_1.mpr ⟨hlt, Nat.add_right_comm h 1 d ▸ hr'⟩)

/-- **C15.multiplier_le_one** — with the pivot of largest magnitude, every elimination multiplier
`a_rk / pivot` of the column segment has magnitude at most 1: the classical growth bound of partial
pivoting (the former signed rule violated it: `-10⁶ / (-ε/2) = 2·10¹⁴`, finding C15-silently-wrong-tiny-pivot) -/
theorem multiplier_le_one (left : Mat K) (k h m : Nat) (hm : h < m)
    (hp : get left (findMax left k h m).1 k ≠ 0) (r : Nat) (hr : h ≤ r) (hr' : r < m) :
    absv (get left r k / get left (findMax left k h m).1 k) ≤ 1 := by
  obtain ⟨_, _, _, hmax⟩ := pivot_maximal_abs left k h m hm
  simp only [absv_eq_abs] at hmax ⊢
  rw [abs_div, div_le_one (abs_pos.mpr hp)]
  exact hmax r hr hr'

/-- **C15.goodRun_always** — with pivoting by magnitude EVERY run of the `echelon` loop is a `GoodRun`: a
column is skipped only when its whole segment is zero (the maximal magnitude is 0), and the pivot row is
always found inside `h..m`. -/
theorem goodRun_always (m n fuel h k : Nat) (st : Mat K × Mat K) : GoodRun m n fuel h k st := by
  induction fuel generalizing h k st with
  | zero => trivial
  | succ fuel ih =>
    obtain ⟨left, right⟩ := st
    simp only [GoodRun, swap_ite]
    split
    · rename_i hc
      obtain ⟨hlo, hhi, _, hmax⟩ := pivot_maximal_abs left k h m hc.1
      split
      · rename_i hz
        refine ⟨fun r hr hr' => ?_, ih _ _ _⟩
        simpa only [(isZero_iff _).mp hz, absv_eq_abs, abs_zero, abs_nonpos_iff] using hmax r hr hr'
      · exact ⟨hlo, hhi, ih _ _ _⟩
    · trivial

/-- a run of the `echelon` loop in which every pivot search returns the current row `h` itself (no row swap:
"the first candidate is the diagonal entry") and that entry is non-zero — what elimination on an SPD matrix
looks like when no below-diagonal entry exceeds the diagonal one -/
def DiagRun (m n : Nat) : Nat → Nat → Nat → Mat K × Mat K → Prop
  | 0, _, _, _ => True
  | fuel + 1, h, k, (left, right) =>
    if h < m ∧ k < n then
      (findMax left k h m).1 = h ∧ get left h k ≠ 0 ∧
        DiagRun m n fuel (h + 1) (k + 1) (clearBelow h k left right)
    else True

/-- **C15.goodRun_of_diagRun** — a pivoting-free run with non-zero diagonal pivots is a `GoodRun`, so
`solve_sound_partial` applies to it without further hypotheses -/
theorem goodRun_of_diagRun (m n fuel h k : Nat) (st : Mat K × Mat K)
    (hd : DiagRun m n fuel h k st) : GoodRun m n fuel h k st :=
  goodRun_always m n fuel h k st

instance diagRunDec (m n : Nat) : ∀ fuel h k (st : Mat K × Mat K), Decidable (DiagRun m n fuel h k st)
  | 0, _, _, _ => isTrue trivial
  | fuel + 1, h, k, (left, right) => by
    unfold DiagRun
    haveI := diagRunDec m n fuel
    infer_instance

/-- non-vacuity: the SPD matrix `[[5,2,0],[2,1,0],[0,0,1]]` (the witness with rows/columns 0 and 1 exchanged)
is eliminated without a swap -/
example : DiagRun 3 3 3 0 0 (fillZero cQ.eps0 [[5, 2, 0], [2, 1, 0], [0, 0, 1]], [[1], [1], [1]]) := by
  decide +kernel

def identityK (n : Nat) : Mat K := (List.range n).map fun i => (List.range n).map fun j => if j = i then 1 else 0

theorem identityK_getD (n i : Nat) (hi : i < n) (j : Nat) :
    ((identityK (K := K) n).getD i []).getD j 0 = if j = i then 1 else 0 := by
  unfold identityK
  rw [getD_map_range _ hi]
  by_cases hj : j < n
  · rw [getD_map_range _ hj]
  · rw [List.getD_eq_default _ _ (by rw [List.length_map, List.length_range]; exact not_lt.mp hj),
      if_neg fun e : j = i => hj (e ▸ hi)]

/-- **C15.solve_exact_of_identity** — if the elimination is a `GoodRun` (always: `goodRun_always`) and ends on
the exact identity (in exact arithmetic it does for every non-singular system whose pivots are found without
meeting a zero column maximum, e.g. `DiagRun`s), then the returned `X'` solves the regularised system exactly,
`(A + eps·I) X' = B`, and it is the only solution (`solve_unique`). -/
theorem solve_exact_of_identity (c : Consts K) (n mm : Nat) (A B : Mat K) (eps : K) (X' : Mat K)
    (hA : A.length = n) (hr : Rect (fillZero eps A, B) n mm)
    (hg : GoodRun A.length n n 0 0 (fillZero eps A, B))
    (hid : (finalState c n A B eps).1 = identityK n)
    (hsol : solveInner c n A B eps = some X') :
    Sat X' mm (fillZero eps A, B) ∧
      ∀ X : Mat K, X.length = n → Sat X mm (fillZero eps A, B) →
        ∀ i c', i < n → c' < mm → get X i c' = get X' i c' := by
  obtain ⟨_, rfl⟩ := solveInner_eq_some.mp hsol
  have same := finalState_same c n hr hg
  generalize finalState c n A B eps = fs at hid same
  obtain ⟨L, X'⟩ := fs
  subst hid
  have hfin := fun X => (same.sat X).symm.trans (sat_unit_rows (n := n) (by simp [identityK]) (identityK_getD n))
  exact ⟨(hfin _).mpr fun _ _ _ _ => rfl, fun X _ hX i c' hi hc' => (hfin X).mp hX i hi c' hc'⟩

/-- with `goodRun_of_diagRun`: the pivoting-free sub-case -/
theorem solve_exact_of_diagRun (c : Consts K) (n mm : Nat) (A B : Mat K) (eps : K) (X' : Mat K)
    (hA : A.length = n) (hr : Rect (fillZero eps A, B) n mm)
    (hd : DiagRun A.length n n 0 0 (fillZero eps A, B))
    (hid : (finalState c n A B eps).1 = identityK n)
    (hsol : solveInner c n A B eps = some X') : Sat X' mm (fillZero eps A, B) :=
  (solve_exact_of_identity c n mm A B eps X' hA hr (goodRun_of_diagRun _ _ _ _ _ _ hd) hid hsol).1

/-- non-vacuity: the SPD system `[[5,2,0],[2,1,0],[0,0,1]] X = (1,1,1)` with the code's first regulariser:
all hypotheses hold (a `DiagRun`, ending on the exact identity), so the returned `X'` is the exact solution
of `(A + 1e-8·I) X = B` -/
example : ∃ X' : Mat ℚ, solveInner cQ 3 [[5, 2, 0], [2, 1, 0], [0, 0, 1]] [[1], [1], [1]] cQ.eps0 = some X' ∧
    Sat X' 1 (fillZero cQ.eps0 [[5, 2, 0], [2, 1, 0], [0, 0, 1]], [[1], [1], [1]]) := by
  have hid : (finalState cQ 3 [[5, 2, 0], [2, 1, 0], [0, 0, 1]] [[1], [1], [1]] cQ.eps0).1 = identityK 3 := by
    decide +kernel
  have hsol := solveInner_eq_some.mpr ⟨by rw [hid]; decide +kernel, rfl⟩
  exact ⟨_, hsol, solve_exact_of_diagRun cQ 3 1 _ _ _ _ rfl (by decide +kernel) (by decide +kernel) hid hsol⟩

/-- **C15.solve_sound** — whenever `solve_inner` returns `X'`,
every exact solution `X` of the regularised system `(A + eps·I) X = B` solves the final system `L X = X'`
whose left side `left_solved` accepted -/
theorem solve_sound (c : Consts K) (n nn mm : Nat) (A B : Mat K) (eps : K) (X X' : Mat K)
    (hr : Rect (fillZero eps A, B) nn mm) (hX : Sat X mm (fillZero eps A, B))
    (hsol : solveInner c n A B eps = some X') :
    ∃ L : Mat K, leftSolved c.tol n L = true ∧ Sat X mm (L, X') :=
  solve_sound_partial c n nn mm A B eps X X' hr (goodRun_always _ _ _ _ _ _) hX hsol

/-- **C15.solve_equiv_all** — for every rectangular system, the system `solve_inner` ends on has exactly the
solutions of the regularised one -/
theorem solve_equiv_all (c : Consts K) (n nn mm : Nat) (A B : Mat K) (eps : K) (X : Mat K)
    (hr : Rect (fillZero eps A, B) nn mm) :
    Sat X mm (fillZero eps A, B) ↔ Sat X mm (finalState c n A B eps) :=
  solve_equiv c n nn mm A B eps X hr (goodRun_always _ _ _ _ _ _)

/-- **C15.solve_exact** — if `solve_inner` ends on the exact identity, the returned `X'` is the unique
exact solution of `(A + eps·I) X = B` -/
theorem solve_exact (c : Consts K) (n mm : Nat) (A B : Mat K) (eps : K) (X' : Mat K)
    (hA : A.length = n) (hr : Rect (fillZero eps A, B) n mm)
    (hid : (finalState c n A B eps).1 = identityK n)
    (hsol : solveInner c n A B eps = some X') :
    Sat X' mm (fillZero eps A, B) ∧
      ∀ X : Mat K, X.length = n → Sat X mm (fillZero eps A, B) →
        ∀ i c', i < n → c' < mm → get X i c' = get X' i c' :=
  solve_exact_of_identity c n mm A B eps X' hA hr (goodRun_always _ _ _ _ _ _) hid hsol

/-- non-vacuity: the former failure witness `[[1,2,0],[2,5,0],[0,0,1]] X = (1,1,1)` ends on the identity -/
example : (finalState cQ 3 [[1, 2, 0], [2, 5, 0], [0, 0, 1]] [[1], [1], [1]] cQ.eps0).1 = identityK (K := ℚ) 3 := by
  decide +kernel
/-- non-vacuity of `multiplier_le_one` / `pivot_maximal_abs`: column `(1, -3, 2)` from row 0: row 1 is chosen -/
example : findMax ([[1], [-3], [2]] : Mat ℚ) 0 0 3 = (1, 3) := by decide +kernel
/-- history: the former rule's choice in the tiny-pivot witness, `-ε/2` over `-10⁶`, gives a multiplier `2·10¹⁴` -/
example : (-(1/200000000) : ℚ) > -1000000 ∧ absv ((-1000000 : ℚ) / (-(1/200000000))) = 200000000000000 := by
  decide +kernel

end Sage.C15
