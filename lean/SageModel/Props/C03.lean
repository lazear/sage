import SageModel.Lemmas.Bss
import SageModel.Lemmas.Pages
import Mathlib.Tactic.Order  -- not for `order`: with it in scope `[LinearOrder α]` yields `LE α` through the lattice path, as in C02/C04
import Mathlib.Order.Defs.LinearOrder
import Mathlib.Data.Nat.Basic

/-!
# C03 — Fragment-index lookup is exact and independent of bucket size

Property text: *A fragment-index lookup for an observed fragment m/z, fragment charge, fragment tolerance,
precursor mass and precursor tolerance returns exactly the stored theoretical fragments whose mass lies in
the fragment window and whose parent peptide mass lies in the precursor window: none missing, none extra,
each once. The answer, and therefore every search result, is the same for every value of the bucket_size
tuning parameter; the underlying range search returns, for any sorted slice and bounds, a range that
contains every element within the bounds.*

All theorems are about the definitions of `SageModel/Model/C03.lean` (the model of `binary_search_slice`,
`IndexedDatabase::query`, `IndexedQuery::page_search` and the tail of `build_from_peptides`), for an
ARBITRARY linear order `α` of masses, every slice / database of every size (0 and 1 included, duplicate
keys allowed, last bucket partial), every bucket size `B ≥ 1` and every window (empty, inverted, partial,
everything; the window arithmetic of `Tolerance::bounds` is outside the theorems: they hold for whatever
four numbers it yields, and the Float32 run compares those bit-exactly).

std's `binary_search_by` enters only through its documented contract `BinSearchOk`; the executable
model's `binSearch` is proved to meet it (`binSearch_ok`).
Not covered: NaN, `-0.0` (IEEE `≤` is a linear order only on NaN-free, zero-sign-normalised floats).
-/

namespace Sage.C03

variable {α : Type}

/-! The covering lemmas of `Lemmas/Bss.lean` for each loop on its own, in the `l[i]` form (`Sorted` for `SortedArr`) in
which DESIGN §2.9 quotes them; nothing below rests on them. -/

def Sorted [LE α] (l : Array α) : Prop :=
  ∀ i j (hi : i < l.size) (hj : j < l.size), i ≤ j → l[i] ≤ l[j]

theorem sorted_iff_sortedArr [LE α] (l : Array α) : Sorted l ↔ SortedArr l := by
  constructor
  · intro h i j x y hij hx hy
    obtain ⟨hi, rfl⟩ := Array.getElem_of_getElem? hx
    obtain ⟨hj, rfl⟩ := Array.getElem_of_getElem? hy
    exact h i j hi hj hij
  · intro h i j hi hj hij
    exact h i j _ _ hij (Array.getElem?_eq_getElem hi) (Array.getElem?_eq_getElem hj)

theorem left_covers [LinearOrder α] (l : Array α) (hl : Sorted l) (low : α) (s : Nat) (hs : s < l.size)
    (i : Nat) (hi : i < l.size) (h : low ≤ l[i]) : walkLeft l low s ≤ i :=
  le_of_exitLo ((sorted_iff_sortedArr l).1 hl) (walkLeft_exit l low s (Nat.le_sub_one_of_lt hs))
    (Array.getElem?_eq_getElem hi) h

theorem right_covers [LinearOrder α] (l : Array α) (hl : Sorted l) (high : α) (idx f : Nat) (hf : idx + f ≥ l.size)
    (i : Nat) (hi : i < l.size) (h : l[i] ≤ high) : i < walkRight l high idx f :=
  lt_of_exitHi ((sorted_iff_sortedArr l).1 hl) (walkRight_exit l high idx f hf).2
    (Array.getElem?_eq_getElem hi) h

theorem walkRight_le_size [LinearOrder α] (l : Array α) (high : α) (idx f : Nat) (h : idx ≤ l.size) :
    walkRight l high idx f ≤ l.size := by
  fun_induction walkRight l high idx f with
  | case1 idx => exact h
  | case2 idx f x hx hle ih => exact ih (lt_size_of_getElem? hx)
  | case3 idx f x hx hnle => exact h
  | case4 idx f hx => exact h

/-- std's contract, weak form covering both `Ok i` and `Err i` -/
def BinSearchOk [LE α] (l : Array α) (x : α) (r : Nat) : Prop :=
  r ≤ l.size ∧ (∀ (i : Nat) (y : α), i < r → l[i]? = some y → y ≤ x) ∧
  (∀ (i : Nat) (y : α), r ≤ i → l[i]? = some y → x ≤ y)

/-- **C03.bss_covers** — the "widest range" contract of `binary_search_slice`: on a sorted slice, every
index whose element lies within `[lo, hi]` is inside the returned range `[left, right)`.  Holds for ANY
answers `rLo`, `rHi` of the two `binary_search_by` calls (only `rLo ≤ len`, which keeps the code from
indexing out of bounds): it follows from the exit conditions of the two `while` loops alone. -/
theorem bss_covers [LinearOrder α] (l : Array α) (hl : SortedArr l) (lo hi : α) (rLo rHi : Nat)
    (hr : rLo ≤ l.size) (i : Nat) (x : α) (hx : l[i]? = some x) (h1 : lo ≤ x) (h2 : x ≤ hi) :
    (bss l lo hi rLo rHi).1 ≤ i ∧ i < (bss l lo hi rLo rHi).2 :=
  have ⟨hL, hR, _⟩ := bss_exit l lo hi rLo rHi hr
  ⟨le_of_exitLo hl hL hx h1, lt_of_exitHi hl (hR.imp_left Eq.ge) hx h2⟩

theorem getElem?_extract_suffix (l : Array α) (L i : Nat) : (l.extract L l.size)[i]? = l[L + i]? := by
  rw [Array.getElem?_extract, Nat.min_self]
  split
  · rfl
  · exact (Array.getElem?_eq_none (Nat.sub_le_iff_le_add'.1 (Nat.le_of_not_lt ‹_›))).symm

/-- **C03.bss_tight** — when the two `binary_search_by` answers meet std's contract, everything strictly
after `left` is `≥ lo` and everything in `[left, right)` is `≤ hi` (what the edge filter of `page_search`
relies on: only the element AT `left` may be below the window). -/
theorem bss_tight [LinearOrder α] (l : Array α) (lo hi : α) (rLo rHi : Nat)
    (hLo : BinSearchOk l lo rLo)
    (hHi : BinSearchOk (l.extract (bss l lo hi rLo rHi).1 l.size) hi rHi)
    (i : Nat) (x : α) (hx : l[i]? = some x) :
    ((bss l lo hi rLo rHi).1 < i → lo ≤ x) ∧
    ((bss l lo hi rLo rHi).1 ≤ i → i < (bss l lo hi rLo rHi).2 → x ≤ hi) := by
  constructor
  · intro hLi
    rcases Nat.lt_or_ge (rLo - 1) i with hc | hc
    · exact hLo.2.2 i x (Nat.le_of_pred_lt hc) hx
    · exact walkLeft_between l lo (rLo - 1) i hLi hc x hx
  · intro hLi hiR
    rcases Nat.lt_or_ge i (rHi + (bss l lo hi rLo rHi).1) with hc | hc
    · -- inside the part vouched for by the binary search on the sub-slice
      refine hHi.2.1 (i - (bss l lo hi rLo rHi).1) x (Nat.sub_lt_right_of_lt_add hLi hc) ?_
      rwa [getElem?_extract_suffix, Nat.add_sub_cancel' hLi]
    · exact walkRight_between l hi _ _ i hc (lt_of_lt_of_le hiR (min_le_left _ _)) x hx

section
variable [LinearOrder α]

def BsOk {κ : Type} [LinearOrder κ] (bs : Array κ → κ → Nat) : Prop :=
  ∀ l x, SortedArr l → BinSearchOk l x (bs l x)

end

/-- the documented contract of `binary_search_slice` on a claimed pair `(L, R)` -/
structure BssSpec [LT α] [LE α] (l : Array α) (lo hi : α) (L R : Nat) : Prop where
  le : L ≤ R
  le_size : R ≤ l.size
  tightLo : ∀ i x, l[i]? = some x → L < i → lo ≤ x
  tightHi : ∀ i x, l[i]? = some x → L ≤ i → i < R → x ≤ hi
  exitLo : L = 0 ∨ ∃ x, l[L]? = some x ∧ x < lo
  exitHi : R = l.size ∨ ∃ x, l[R]? = some x ∧ hi < x

theorem BssSpec.covers [LinearOrder α] {l : Array α} {lo hi : α} {L R : Nat} (sp : BssSpec l lo hi L R)
    (hl : SortedArr l) {i : Nat} {x : α} (hx : l[i]? = some x) (h1 : lo ≤ x) (h2 : x ≤ hi) : L ≤ i ∧ i < R :=
  ⟨le_of_exitLo hl sp.exitLo hx h1, lt_of_exitHi hl (sp.exitHi.imp_left Eq.ge) hx h2⟩

theorem bss_spec [LinearOrder α] (l : Array α) (lo hi : α) (rLo rHi : Nat) (hLo : BinSearchOk l lo rLo)
    (hHi : BinSearchOk (l.extract (bss l lo hi rLo rHi).1 l.size) hi rHi) :
    BssSpec l lo hi (bss l lo hi rLo rHi).1 (bss l lo hi rLo rHi).2 := by
  have ht := bss_tight l lo hi rLo rHi hLo hHi
  have ⟨hL, hR, hle⟩ := bss_exit l lo hi rLo rHi hLo.1
  exact ⟨hle, min_le_right _ _, fun i x hx => (ht i x hx).1, fun i x hx => (ht i x hx).2, hL, hR⟩

theorem extract_sorted [LE α] (l : Array α) (h : SortedArr l) (L : Nat) :
    SortedArr (l.extract L l.size) := by
  intro i j x y hij hx hy
  rw [getElem?_extract_suffix] at hx hy
  exact h _ _ x y (Nat.add_le_add_left hij L) hx hy

/-- **C03.bssWith_spec** — `binary_search_slice` meets its documented contract on every sorted slice. -/
theorem bssWith_spec [LinearOrder α] (bs : Array α → α → Nat) (hbs : BsOk bs) (l : Array α)
    (hl : SortedArr l) (lo hi : α) :
    BssSpec l lo hi (bssWith bs l lo hi).1 (bssWith bs l lo hi).2 :=
  bss_spec l lo hi _ _ (hbs l lo hl) (hbs _ hi (extract_sorted l hl _))

section
variable [LinearOrder α]

theorem bssWith_covers {κ : Type} [LinearOrder κ] (bs : Array κ → κ → Nat) (hbs : BsOk bs) (l : Array κ)
    (hl : SortedArr l) (lo hi : κ) (i : Nat) (x : κ) (hx : l[i]? = some x) (h1 : lo ≤ x) (h2 : x ≤ hi) :
    (bssWith bs l lo hi).1 ≤ i ∧ i < (bssWith bs l lo hi).2 :=
  (bssWith_spec bs hbs l hl lo hi).covers hl hx h1 h2

end

/-- **C03.bssSpec_unique** — the contract pins the pair `(left, right)` uniquely. -/
theorem bssSpec_unique [LinearOrder α] (l : Array α) (lo hi : α) (L R L' R' : Nat)
    (h : BssSpec l lo hi L R) (h' : BssSpec l lo hi L' R') : L = L' ∧ R = R' := by
  have keyL : ∀ {A RA C RC : Nat}, BssSpec l lo hi A RA → BssSpec l lo hi C RC → C ≤ A := by
    intro A RA C RC hA hC
    by_contra hlt
    rcases hC.exitLo with h0 | ⟨x, hx, hxlo⟩
    · exact hlt (h0 ▸ Nat.zero_le A)
    · exact absurd (hA.tightLo C x hx (Nat.lt_of_not_le hlt)) (not_le.2 hxlo)
  obtain rfl : L = L' := Nat.le_antisymm (keyL h' h) (keyL h h')
  have keyR : ∀ {RA RC : Nat}, BssSpec l lo hi L RA → BssSpec l lo hi L RC → RC ≤ RA := by
    intro RA RC hA hC
    by_contra hlt
    rcases hA.exitHi with h0 | ⟨x, hx, hxhi⟩
    · exact hlt (h0 ▸ hC.le_size)
    · exact absurd (hC.tightHi RA x hx hA.le (Nat.lt_of_not_le hlt)) (not_le.2 hxhi)
  exact ⟨rfl, Nat.le_antisymm (keyR h' h) (keyR h h')⟩

/-- **C03.bss_canonical** — the pair returned by `binary_search_slice` on a sorted slice does not depend on
which index std's `binary_search_by` picks among equal keys (any two searches meeting the contract give
the same pair): this licenses comparing the implementation's pair with the model's pair exactly. -/
theorem bss_canonical [LinearOrder α] (bs bs' : Array α → α → Nat) (hbs : BsOk bs) (hbs' : BsOk bs')
    (l : Array α) (hl : SortedArr l) (lo hi : α) :
    bssWith bs l lo hi = bssWith bs' l lo hi :=
  have := bssSpec_unique l lo hi _ _ _ _ (bssWith_spec bs hbs l hl lo hi) (bssWith_spec bs' hbs' l hl lo hi)
  Prod.ext this.1 this.2

theorem mid_bounds {lo hi : Nat} (h : lo < hi) : lo ≤ (lo + hi) / 2 ∧ (lo + hi) / 2 < hi := by omega

theorem lowerBound_spec [LinearOrder α] (l : Array α) (hl : SortedArr l) (x : α) (f lo hi : Nat)
    (hhi : hi ≤ l.size) (hlohi : lo ≤ hi) (hf : hi - lo < f)
    (h1 : ∀ i y, i < lo → l[i]? = some y → y < x)
    (h2 : ∀ i y, hi ≤ i → l[i]? = some y → x ≤ y) :
    lowerBound l x f lo hi ≤ l.size ∧
    (∀ i y, i < lowerBound l x f lo hi → l[i]? = some y → y < x) ∧
    (∀ i y, lowerBound l x f lo hi ≤ i → l[i]? = some y → x ≤ y) := by
  fun_induction lowerBound l x f lo hi with
  | case1 lo hi => exact absurd hf (Nat.not_lt_zero _)
  | case2 f lo hi hlt mid y hy hyx ih =>
    obtain ⟨hm1, hm2⟩ : lo ≤ mid ∧ mid < hi := mid_bounds hlt
    exact ih hhi hm2 (Nat.lt_of_lt_of_le (Nat.sub_lt_sub_left hlt (Nat.lt_succ_of_le hm1)) (Nat.le_of_lt_succ hf))
      (fun i z hi' hz => lt_of_le_of_lt (hl i mid z y (Nat.le_of_lt_succ hi') hz hy) hyx) h2
  | case3 f lo hi hlt mid y hy hyx ih =>
    obtain ⟨hm1, hm2⟩ : lo ≤ mid ∧ mid < hi := mid_bounds hlt
    exact ih (hm2.le.trans hhi) hm1 (Nat.lt_of_lt_of_le (Nat.sub_lt_sub_right hm1 hm2) (Nat.le_of_lt_succ hf)) h1
      (fun i z hi' hz => le_trans (not_lt.1 hyx) (hl mid i y z hi' hy hz))
  | case4 f lo hi hlt mid hnone =>
    exact absurd ((mid_bounds hlt).2.trans_le hhi) (Nat.not_lt.2 (Array.getElem?_eq_none_iff.1 hnone))
  | case5 f lo hi hnlt =>
    obtain rfl : lo = hi := Nat.le_antisymm hlohi (Nat.not_lt.1 hnlt)
    exact ⟨hhi, h1, h2⟩

/-- the concrete binary search meets std's `binary_search_by` contract on sorted slices -/
theorem binSearch_ok [LinearOrder α] : BsOk (binSearch (α := α)) := by
  intro l x hl
  have := lowerBound_spec l hl x (l.size + 1) 0 l.size (Nat.le_refl _) (Nat.zero_le _) (Nat.lt_succ_self _)
    (fun i y h => absurd h (Nat.not_lt_zero i))
    (fun i y h hy => absurd (lt_size_of_getElem? hy) (Nat.not_lt.2 h))
  exact ⟨this.1, fun i y hi hy => (this.2.1 i y hi hy).le, this.2.2⟩

section
variable [LinearOrder α]

theorem inWin_iff (masses : Array α) (q : Q α) (f : Frag α) :
    inWin masses q f = true ↔
      (q.fragLo ≤ f.mz ∧ f.mz ≤ q.fragHi) ∧ ∃ m, masses[f.pep]? = some m ∧ q.preLo ≤ m ∧ m ≤ q.preHi := by
  unfold inWin massOf
  cases masses[f.pep]? <;> simp

theorem edgeFilter_of_spec {masses : Array α} (hm : SortedArr masses) {q : Q α} {pLo pHi : Nat}
    (sp : BssSpec masses q.preLo q.preHi pLo pHi) (f : Frag α) (hv : f.pep < masses.size) :
    edgeFilter masses q pLo pHi f = inWin masses q f := by
  have hmass := Array.getElem?_eq_getElem hv
  rw [Bool.eq_iff_iff, inWin_iff]
  unfold edgeFilter massOf
  rw [hmass]
  simp only [Bool.and_eq_true, Bool.or_eq_true, decide_eq_true_eq, Option.some.injEq, exists_eq_left']
  constructor
  · rintro ⟨⟨⟨h1, h2⟩, h3⟩, h4⟩
    -- below the window only AT `pLo`, where the mass is looked at
    have hle : pLo ≤ f.pep := h1.elim Nat.le_of_lt (·.1.ge)
    exact ⟨⟨h3, h4⟩, h1.elim (sp.tightLo f.pep _ hmass) (·.2), h2.elim (sp.tightHi f.pep _ hmass hle) (·.2)⟩
  · rintro ⟨⟨h3, h4⟩, h5, h6⟩
    obtain ⟨hL, hR⟩ := sp.covers hm hmass h5 h6
    exact ⟨⟨⟨(Nat.lt_or_eq_of_le hL).imp_right fun e => ⟨e.symm, h5⟩, .inl hR⟩, h3⟩, h4⟩

/-- **C03.edgeFilter_eq_inWin** — the edge filter of `page_search` (which compares peptide *indices* and
looks at a mass only at `pre_idx_lo` / `pre_idx_hi`) is *pointwise* the specification predicate on masses
(the claim of the source comment above it). -/
theorem edgeFilter_eq_inWin (bsA : Array α → α → Nat) (hbs : BsOk bsA) (masses : Array α) (hm : SortedArr masses)
    (q : Q α) (f : Frag α) (hv : f.pep < masses.size) :
    edgeFilter masses q (bssWith bsA masses q.preLo q.preHi).1 (bssWith bsA masses q.preLo q.preHi).2 f
      = inWin masses q f :=
  edgeFilter_of_spec hm (bssWith_spec bsA hbs masses hm q.preLo q.preHi) f hv

theorem page_exact {masses : Array α} (hm : SortedArr masses) {q : Q α} {pLo pHi : Nat}
    (sp : BssSpec masses q.preLo q.preHi pLo pHi) (s : List (Frag α)) (hv : ∀ f ∈ s, f.pep < masses.size)
    (hks : SortedArr (s.map (·.pep)).toArray) {a b : Nat} (spN : BssSpec (s.map (·.pep)).toArray pLo pHi a b) :
    ((s.drop a).take (b - a)).filter (edgeFilter masses q pLo pHi) = s.filter (inWin masses q) := by
  rw [List.filter_congr fun f hf => edgeFilter_of_spec hm sp f
    (hv f (List.mem_of_mem_drop (List.mem_of_mem_take hf)))]
  refine filter_drop_take s _ _ _ fun i f hi hw => ?_
  obtain ⟨-, m, hm', h1, h2⟩ := (inWin_iff masses q f).1 hw
  obtain ⟨hL, hR⟩ := sp.covers hm hm' h1 h2
  exact spN.covers hks (by simp [hi]) hL hR.le

theorem page_outside {masses minv : Array α} {frags : List (Frag α)} {B : Nat}
    (inv : DbInv masses minv frags B) {q : Q α} {L R : Nat} (sp : BssSpec minv q.fragLo q.fragHi L R)
    {p : Nat} (hp : p < minv.size) (hout : p < L ∨ R ≤ p) :
    (slice frags B p).filter (inWin masses q) = [] := by
  refine List.filter_eq_nil_iff.2 fun f hf hw => ?_
  obtain ⟨⟨hlo, hhi⟩, -⟩ := (inWin_iff masses q f).1 hw
  rcases hout with hpL | hRp
  · rcases sp.exitLo with h0 | ⟨x, hx, hxlo⟩
    · exact absurd (h0 ▸ hpL) (Nat.not_lt_zero p)
    · -- `fragLo ≤ f.mz ≤ minv[p+1] ≤ minv[L] < fragLo`
      have hm1 := Array.getElem?_eq_getElem (show p + 1 < minv.size from
        Nat.lt_of_le_of_lt hpL (lt_size_of_getElem? hx))
      exact absurd (hlo.trans ((inv.upper p f _ hf hm1).trans (inv.minvSorted (p+1) L _ _ hpL hm1 hx)))
        (not_le.2 hxlo)
  · rcases sp.exitHi with h0 | ⟨x, hx, hxhi⟩
    · exact absurd hp (Nat.not_lt.2 (h0 ▸ hRp))
    · -- `fragHi < minv[R] ≤ minv[p] ≤ f.mz ≤ fragHi`
      have hmp := Array.getElem?_eq_getElem hp
      exact absurd (((inv.minvSorted R p _ _ hRp hx hmp).trans (inv.lower p f _ hf hmp)).trans hhi)
        (not_le.2 hxhi)

theorem flatMap_range_restrict {β : Type} (g : Nat → List β) (a b n : Nat) (h1 : a ≤ b) (h2 : b ≤ n)
    (h : ∀ p, p < n → p < a ∨ b ≤ p → g p = []) :
    (List.range n).flatMap g = (List.range' a (b - a)).flatMap g := by
  obtain ⟨d, rfl⟩ := Nat.exists_eq_add_of_le h1
  obtain ⟨e, rfl⟩ := Nat.exists_eq_add_of_le h2
  have hbefore : (List.range' 0 a).flatMap g = [] := List.flatMap_eq_nil_iff.2 fun p hp =>
    have := Nat.zero_add a ▸ (List.mem_range'_1.1 hp).2
    h p (Nat.lt_of_lt_of_le this (Nat.le_trans h1 h2)) (.inl this)
  have hafter : (List.range' (a + d) e).flatMap g = [] := List.flatMap_eq_nil_iff.2 fun p hp =>
    have := List.mem_range'_1.1 hp
    h p this.2 (.inr this.1)
  rw [Nat.add_sub_cancel_left, List.range_eq_range', Nat.add_assoc, ← List.range'_append_1, Nat.zero_add,
    ← List.range'_append_1, List.flatMap_append, List.flatMap_append, hbefore, hafter, List.nil_append,
    List.append_nil]

/-- **C03.pageSearch_exact** — for every database satisfying the index invariant, every bucket size, every
query window and any binary searches meeting std's contract, `page_search` returns exactly the stored
fragments whose m/z lies in the fragment window and whose parent peptide mass lies in the precursor window:
equality of LISTS with the linear scan (none missing, none extra, each once, in storage order). -/
theorem pageSearch_exact (bsA : Array α → α → Nat) (bsN : Array Nat → Nat → Nat) (hA : BsOk bsA) (hN : BsOk bsN)
    (masses minv : Array α) (frags : List (Frag α)) (B : Nat) (inv : DbInv masses minv frags B) (q : Q α) :
    pageSearch bsA bsN masses minv frags B q = frags.filter (inWin masses q) := by
  have spg := bssWith_spec bsA hA minv inv.minvSorted q.fragLo q.fragHi
  have hpage := fun p => page_exact inv.massesSorted (bssWith_spec bsA hA masses inv.massesSorted q.preLo q.preHi)
    (slice frags B p) (fun f hf => inv.pepValid f (List.mem_of_mem_drop (List.mem_of_mem_take hf))) (inv.keysSorted p)
    (bssWith_spec bsN hN _ (inv.keysSorted p) _ _)
  unfold pageSearch
  simp only [hpage]
  -- the flat filter is the concatenation over all pages, of which only the visited ones contribute
  rw [← flatMap_range_restrict _ _ _ minv.size spg.le spg.le_size
    fun p hp => page_outside inv spg hp]
  conv_rhs => rw [← flatMap_chunks frags B minv.size inv.pages, List.filter_flatMap]
  rfl

end

/-- **C03.pageSearchC_exact** — `pageSearch_exact` for the executable model run by the driver (concrete
binary search, no hypothesis left but the index invariant). -/
theorem pageSearchC_exact [LinearOrder α] (masses minv : Array α) (frags : List (Frag α)) (B : Nat)
    (inv : DbInv masses minv frags B) (q : Q α) :
    pageSearchC masses minv frags B q = scan masses frags q :=
  pageSearch_exact binSearch binSearch binSearch_ok binSearch_ok masses minv frags B inv q

/-- **C03.pageSearchA_exact** — the Array-backed executable search (what a caller holding the fragments as
an array runs) equals `pageSearchC` (`pageSearchA_eq`, in the model file), hence the linear scan. -/
theorem pageSearchA_exact [LinearOrder α] (masses minv : Array α) (frags : List (Frag α)) (B : Nat)
    (inv : DbInv masses minv frags B) (q : Q α) :
    pageSearchA masses minv frags.toArray B q = scan masses frags q := by
  rw [pageSearchA_eq, pageSearchC_exact masses minv frags B inv q]

/-- **C03.fast_forms_agree** — the three `@[csimp]` replacements compute the reference definitions, so every
theorem here is about what the driver executes (proved in the model file for bare `LT` / `LE` instances: no
order law is used). -/
theorem fast_forms_agree [LinearOrder α] (masses minv : Array α) (frags ions : List (Frag α)) (B : Nat) (q : Q α)
    (l : Array α) (lo hi : α) :
    buildIndexFast B ions = buildIndex B ions ∧
    pageSearchFast masses minv frags B q = pageSearchC masses minv frags B q ∧
    bssFast l lo hi = binarySearchSlice l lo hi :=
  ⟨(buildIndex_eq_fast B ions).symm, (pageSearchC_eq_fast masses minv frags B q).symm, (bssFast_eq l lo hi).symm⟩

/-- **C03.bucket_size_irrelevant** — two indexes over the same peptides whose fragment lists are
permutations of each other (e.g. built with different bucket sizes, with whatever tie order the unstable
sorts chose) answer every query with the same multiset of fragments. -/
theorem bucket_size_irrelevant [LinearOrder α] (bsA bsA' : Array α → α → Nat) (bsN bsN' : Array Nat → Nat → Nat)
    (hA : BsOk bsA) (hA' : BsOk bsA') (hN : BsOk bsN) (hN' : BsOk bsN')
    (masses minv minv' : Array α) (frags frags' : List (Frag α)) (B B' : Nat)
    (inv : DbInv masses minv frags B) (inv' : DbInv masses minv' frags' B')
    (hperm : frags.Perm frags') (q : Q α) :
    (pageSearch bsA bsN masses minv frags B q).Perm (pageSearch bsA' bsN' masses minv' frags' B' q) := by
  rw [pageSearch_exact bsA bsN hA hN masses minv frags B inv q,
      pageSearch_exact bsA' bsN' hA' hN' masses minv' frags' B' inv' q]
  exact hperm.filter _

theorem lt_nPages_iff (n B p : Nat) (hB : 0 < B) : p < nPages n B ↔ p * B < n := by
  rw [nPages, Nat.lt_iff_add_one_le, Nat.le_div_iff_mul_le hB, Nat.add_mul]
  omega

theorem le_nPages_mul (n B : Nat) (hB : 0 < B) : n ≤ nPages n B * B :=
  Nat.le_of_not_lt fun h => Nat.lt_irrefl _ ((lt_nPages_iff n B _ hB).2 h)

theorem slice_eq_nil (frags : List (Frag α)) (B p : Nat) (h : frags.length ≤ p * B) : slice frags B p = [] := by
  rw [slice, List.drop_eq_nil_of_le h, List.take_nil]

theorem slice_getElem? (l : List (Frag α)) (B p i : Nat) :
    (slice l B p)[i]? = if i < B then l[p*B + i]? else none := by
  unfold slice
  rw [List.getElem?_take]
  split
  · rw [List.getElem?_drop]
  · rfl

theorem mem_slice (l : List (Frag α)) (B p : Nat) (f : Frag α) (h : f ∈ slice l B p) :
    ∃ k, p * B ≤ k ∧ k < p * B + B ∧ l[k]? = some f := by
  obtain ⟨i, hi⟩ := List.mem_iff_getElem?.mp h
  rw [slice_getElem?] at hi
  split at hi
  · exact ⟨p*B + i, Nat.le_add_right _ _, Nat.add_lt_add_left ‹_› _, hi⟩
  · cases hi

theorem length_slice (l : List (Frag α)) (B p : Nat) : (slice l B p).length = min B (l.length - p * B) := by
  rw [slice, List.length_take, List.length_drop]

theorem head?_slice (l : List (Frag α)) (B p : Nat) (hB : 0 < B) : (slice l B p).head? = l[p * B]? := by
  rw [slice, List.head?_take, if_neg (Nat.ne_of_gt hB), List.head?_drop]

theorem sortedAdj_sound [LinearOrder α] (l : Array α) (h : sortedAdj l = true) : SortedArr l := by
  intro i j x y hij hx hy
  induction j, hij using Nat.le_induction generalizing y with
  | base => exact (Option.some.inj (hx.symm.trans hy)).le
  | succ j _ ih =>
    have hj := lt_size_of_getElem? hy
    have := List.all_eq_true.1 h j (List.mem_range.2 (Nat.lt_sub_of_add_lt hj))
    rw [Array.getElem?_eq_getElem (Nat.lt_of_succ_lt hj), hy] at this
    exact (ih _ (Array.getElem?_eq_getElem _)).trans (of_decide_eq_true this)

theorem sortedAdjNat_pairwise (l : List Nat) (h : sortedAdjNat l = true) : l.Pairwise (· ≤ ·) := by
  fun_induction sortedAdjNat l with
  | case1 => exact .nil
  | case2 a => exact List.pairwise_singleton _ _
  | case3 a b t ih =>
    rw [Bool.and_eq_true, decide_eq_true_eq] at h
    have iht := ih h.2
    exact iht.cons (List.forall_mem_cons.2 ⟨h.1, fun c hc => h.1.trans (List.rel_of_pairwise_cons iht hc)⟩)

theorem ite_eq_empty {c : Prop} [Decidable c] {s t : String} (h : (if c then s else t) = "")
    (hs : s ≠ "" := by simp) : ¬ c ∧ t = "" := by
  split at h
  · exact absurd h hs
  · exact ⟨‹_›, h⟩

/-- **C03.dbInvOk_sound** — the decidable check the driver evaluates on the layout exported from the REAL
index implies the invariant `pageSearch_exact` assumes. -/
theorem dbInvOk_sound [LinearOrder α] (masses minv : Array α) (frags : List (Frag α)) (B : Nat)
    (h : dbInvOk masses minv frags B = true) : DbInv masses minv frags B := by
  have h : dbInvClause masses minv frags B = "" := eq_of_beq h
  unfold dbInvClause at h
  obtain ⟨hB, h⟩ := ite_eq_empty h
  obtain ⟨hms, h⟩ := ite_eq_empty h
  obtain ⟨hnp, h⟩ := ite_eq_empty h
  obtain ⟨hmv, h⟩ := ite_eq_empty h
  obtain ⟨hpv, h⟩ := ite_eq_empty h
  obtain ⟨hlo, h⟩ := ite_eq_empty h
  obtain ⟨hup, h⟩ := ite_eq_empty h
  obtain ⟨hks, -⟩ := ite_eq_empty h
  simp only [Bool.not_eq_true', Bool.not_eq_false, bne_iff_ne, ne_eq, Decidable.not_not, List.all_eq_true,
    List.mem_range, decide_eq_true_eq] at hms hnp hmv hpv hlo hup hks
  have hBpos : 0 < B := Nat.pos_of_ne_zero hB
  have hpages : frags.length ≤ minv.size * B := hnp ▸ le_nPages_mul _ _ hBpos
  refine ⟨sortedAdj_sound _ hms, hBpos, hpages, sortedAdj_sound _ hmv, ?_, ?_, ?_, hpv⟩
  · intro p f m hf hm
    have := hlo p (lt_size_of_getElem? hm)
    rw [hm] at this
    exact of_decide_eq_true (List.all_eq_true.1 this f hf)
  · intro p f m hf hm
    have := hup p (Nat.lt_of_succ_lt (lt_size_of_getElem? hm))
    rw [hm] at this
    exact of_decide_eq_true (List.all_eq_true.1 this f hf)
  · intro p
    by_cases hp : p < minv.size
    · exact sortedArr_of_pairwise _ (sortedAdjNat_pairwise _ (hks p hp))
    · -- the check stops at the last page; beyond it every slice is empty
      rw [slice_eq_nil frags B p (hpages.trans (Nat.mul_le_mul_right B (Nat.le_of_not_lt hp)))]
      intro i j x y _ hx
      cases hx

theorem layout_inv [LinearOrder α] (B : Nat) (hB : 0 < B) (masses : Array α) (hm : SortedArr masses)
    (sorted : List (Frag α)) (hpw : sorted.Pairwise fun a b => a.mz ≤ b.mz)
    (hv : ∀ f ∈ sorted, f.pep < masses.size)
    (g : Nat → List (Frag α)) (hg : ∀ p, (g p).Perm (slice sorted B p))
    (hk : ∀ p, SortedArr ((g p).map (·.pep)).toArray)
    (minv : Array α) (hsz : minv.size = nPages sorted.length B)
    (hmin : ∀ p, p < nPages sorted.length B → minv[p]? = sorted[p * B]?.map (·.mz)) :
    DbInv masses minv ((List.range (nPages sorted.length B)).flatMap g) B ∧
      ((List.range (nPages sorted.length B)).flatMap g).Perm sorted := by
  have hnp := le_nPages_mul sorted.length B hB
  obtain ⟨hfperm, (hslice : ∀ p, slice ((List.range (nPages sorted.length B)).flatMap g) B p = g p)⟩ :=
    pages_perm sorted B _ hnp (fun p => (lt_nPages_iff _ B p hB).1) g hg
  have hmem : ∀ p f, f ∈ slice ((List.range (nPages sorted.length B)).flatMap g) B p →
      ∃ k, p * B ≤ k ∧ k < p * B + B ∧ sorted[k]? = some f := fun p f hf =>
    mem_slice sorted B p f ((hg p).subset (hslice p ▸ hf))
  have hidx : ∀ {i j : Nat} {a b : Frag α}, i ≤ j → sorted[i]? = some a → sorted[j]? = some b → a.mz ≤ b.mz :=
    rel_of_pairwise_getElem? (R := fun a b : Frag α => a.mz ≤ b.mz) (fun _ => le_refl _) hpw
  have hfirst : ∀ {p m}, minv[p]? = some m → ∃ f0, sorted[p * B]? = some f0 ∧ f0.mz = m := fun h =>
    Option.map_eq_some_iff.1 ((hmin _ (hsz ▸ lt_size_of_getElem? h)).symm.trans h)
  refine ⟨⟨hm, hB, ?_, ?_, ?_, ?_, ?_, ?_⟩, hfperm⟩
  · rw [hsz, hfperm.length_eq]
    exact hnp
  · intro i j x y hij hx hy
    obtain ⟨a, ha, rfl⟩ := hfirst hx
    obtain ⟨b, hb, rfl⟩ := hfirst hy
    exact hidx (Nat.mul_le_mul_right B hij) ha hb
  · intro p f m hf hmp
    obtain ⟨a, ha, rfl⟩ := hfirst hmp
    obtain ⟨k, hk1, -, hk⟩ := hmem p f hf
    exact hidx hk1 ha hk
  · intro p f m hf hmp
    obtain ⟨a, ha, rfl⟩ := hfirst hmp
    obtain ⟨k, -, hk2, hk⟩ := hmem p f hf
    exact hidx (Nat.succ_mul p B ▸ Nat.le_of_lt hk2) hk ha
  · intro p
    rw [hslice p]
    exact hk p
  · exact fun f hf => hv f (hfperm.mem_iff.1 hf)

theorem filterMap_range {β : Type} (f : Nat → Option β) (n : Nat) (h : ∀ p, p < n → (f p).isSome = true) :
    ((List.range n).filterMap f).length = n ∧ ∀ p, p < n → ((List.range n).filterMap f)[p]? = f p := by
  induction n with
  | zero => exact ⟨rfl, fun p hp => absurd hp (Nat.not_lt_zero p)⟩
  | succ n ih =>
    obtain ⟨hl, hg⟩ := ih (fun p hp => h p (Nat.lt_succ_of_lt hp))
    obtain ⟨y, hy⟩ := Option.isSome_iff_exists.mp (h n (Nat.lt_succ_self n))
    rw [List.range_succ, List.filterMap_append, List.filterMap_cons_some hy, List.filterMap_nil]
    constructor
    · rw [List.length_append, hl]
      rfl
    · intro p hp
      rcases Nat.lt_succ_iff_lt_or_eq.1 hp with hpn | rfl
      · rw [List.getElem?_append_left (hl.symm ▸ hpn), hg p hpn]
      · rw [List.getElem?_append_right (Nat.le_of_eq hl), hl, Nat.sub_self, hy]
        rfl

/-- **C03.buildIndex_inv** — for every bucket size `B ≥ 1`, every peptide list sorted by mass and every ion
list (any length, duplicates allowed), the builder (sort by m/z, chunks of `B`, `min_value` = first m/z of
each chunk, per-chunk sort by peptide index) succeeds, establishes the index invariant, and stores a
permutation of the generated ions. -/
theorem buildIndex_inv [LinearOrder α] (B : Nat) (hB : 0 < B) (masses : Array α) (hm : SortedArr masses)
    (ions : List (Frag α)) (hv : ∀ f ∈ ions, f.pep < masses.size) :
    ∃ minv frags, buildIndex B ions = some (minv, frags) ∧ DbInv masses minv frags B ∧ frags.Perm ions := by
  rw [buildIndex, if_neg (Nat.ne_of_gt hB)]
  have hsp : (ions.mergeSort leMz).Perm ions := List.mergeSort_perm ions leMz
  have hpw : (ions.mergeSort leMz).Pairwise fun a b => a.mz ≤ b.mz := pairwise_mergeSort_key Frag.mz ions
  generalize ions.mergeSort leMz = sorted at hsp hpw ⊢
  obtain ⟨hmlen, hmget⟩ := filterMap_range (fun p => (slice sorted B p).head?.map (·.mz)) _ fun p hp => by
    rw [head?_slice _ _ _ hB, List.getElem?_eq_getElem ((lt_nPages_iff _ B p hB).1 hp)]
    rfl
  obtain ⟨inv, hperm⟩ := layout_inv B hB masses hm sorted hpw (fun f hf => hv f (hsp.mem_iff.1 hf))
    (fun p => (slice sorted B p).mergeSort lePep) (fun p => List.mergeSort_perm _ _)
    (fun p => sortedArr_of_pairwise _ (List.pairwise_map.2 (pairwise_mergeSort_key Frag.pep _)))
    _ (by rw [List.size_toArray, hmlen]) fun p hp => by
      rw [List.getElem?_toArray, hmget p hp, head?_slice _ _ _ hB]
  exact ⟨_, _, rfl, inv, hperm.trans hsp⟩

/-- **C03.bucket_size_irrelevant_build** — the answer of a lookup is the filter of the generated ion
multiset by the two windows, whatever the bucket size: for all `B, B' ≥ 1` the indexes built from the same
ions answer every query with the same multiset, namely `scan masses ions q`. -/
theorem bucket_size_irrelevant_build [LinearOrder α] (B B' : Nat) (hB : 0 < B) (hB' : 0 < B')
    (masses : Array α) (hm : SortedArr masses) (ions : List (Frag α))
    (hv : ∀ f ∈ ions, f.pep < masses.size) (q : Q α) :
    ∃ minv frags minv' frags', buildIndex B ions = some (minv, frags) ∧
      buildIndex B' ions = some (minv', frags') ∧
      (pageSearchC masses minv frags B q).Perm (pageSearchC masses minv' frags' B' q) ∧
      (pageSearchC masses minv frags B q).Perm (scan masses ions q) := by
  obtain ⟨minv, frags, h1, inv, p1⟩ := buildIndex_inv B hB masses hm ions hv
  obtain ⟨minv', frags', h2, inv', p2⟩ := buildIndex_inv B' hB' masses hm ions hv
  refine ⟨minv, frags, minv', frags', h1, h2, ?_, ?_⟩
  · exact bucket_size_irrelevant binSearch binSearch binSearch binSearch binSearch_ok binSearch_ok
      binSearch_ok binSearch_ok masses minv minv' frags frags' B B' inv inv' (p1.trans p2.symm) q
  · rw [pageSearchC_exact masses minv frags B inv q]
    exact p1.filter _

/-- **C03.build_B_zero** — bucket size 0 is rejected (the panic of `par_chunks_mut(0)`), so none of the
statements above is vacuously about it. -/
theorem build_B_zero [LinearOrder α] (ions : List (Frag α)) : buildIndex 0 ions = none :=
  if_pos rfl

/-- **C03.runSeq_history_free** — statelessness of the query object: in any sequence of lookups made through
one query object, the answer to a lookup is the from-scratch `lookup` of its own `(mz, charge)`, whatever was
looked up before or after it. (Trivial for the model, whose `page_search` only reads the query object; it is
the statement the `pageseq` op ties to the real `IndexedQuery`.) -/
theorem runSeq_history_free [Add α] [Mul α] [Div α] [LT α] [DecidableLT α] [LE α] [DecidableLE α]
    (million hundred : α) (masses minv : Array α) (frags : List (Frag α)) (B : Nat)
    (preTol fragTol : Tol α) (preMass : α) (pre post : List (α × α)) (x : α × α) :
    (runSeq million hundred (mkQuery million hundred masses preTol fragTol preMass) masses minv frags B
        (pre ++ x :: post))[pre.length]?
      = some (lookup million hundred masses minv frags B preTol fragTol preMass x.1 x.2) := by
  rw [runSeq, List.getElem?_map, List.getElem?_append_right (Nat.le_refl _), Nat.sub_self]
  exact congrArg some (IQuery.pageSearch_eq_lookup ..)

/-- **C03.runSeq_eq_map_lookup** — a sequence of lookups through one query object = a fresh query per lookup. -/
theorem runSeq_eq_map_lookup [Add α] [Mul α] [Div α] [LT α] [DecidableLT α] [LE α] [DecidableLE α]
    (million hundred : α) (masses minv : Array α) (frags : List (Frag α)) (B : Nat)
    (preTol fragTol : Tol α) (preMass : α) (l : List (α × α)) :
    runSeq million hundred (mkQuery million hundred masses preTol fragTol preMass) masses minv frags B l
      = l.map fun x => lookup million hundred masses minv frags B preTol fragTol preMass x.1 x.2 :=
  List.map_congr_left fun _ _ => IQuery.pageSearch_eq_lookup ..

/-- **C03.lookup_exact** — a lookup (window arithmetic included) is the linear scan for its own window. -/
theorem lookup_exact [Add α] [Mul α] [Div α] [LinearOrder α]
    (million hundred : α) (masses minv : Array α) (frags : List (Frag α)) (B : Nat)
    (inv : DbInv masses minv frags B) (preTol fragTol : Tol α) (preMass mz charge : α) :
    lookup million hundred masses minv frags B preTol fragTol preMass mz charge
      = (window million hundred preTol fragTol preMass mz charge).map (scan masses frags) := by
  rw [lookup, funext (pageSearchC_exact masses minv frags B inv)]

/-- **C03.runSeq_exact** — under the index invariant every answer of a lookup sequence is the exact filter of
the whole fragment list for ITS OWN window: independent of the history and (with `buildIndex_inv`) of `B`. -/
theorem runSeq_exact [Add α] [Mul α] [Div α] [LinearOrder α]
    (million hundred : α) (masses minv : Array α) (frags : List (Frag α)) (B : Nat)
    (inv : DbInv masses minv frags B) (preTol fragTol : Tol α) (preMass : α) (l : List (α × α)) :
    runSeq million hundred (mkQuery million hundred masses preTol fragTol preMass) masses minv frags B l
      = l.map fun x => (window million hundred preTol fragTol preMass x.1 x.2).map (scan masses frags) := by
  rw [runSeq_eq_map_lookup]
  exact List.map_congr_left fun _ _ => lookup_exact million hundred masses minv frags B inv ..

/-- **C03.runSeq_perm** — reordering the lookups only reorders the answers. -/
theorem runSeq_perm [Add α] [Mul α] [Div α] [LT α] [DecidableLT α] [LE α] [DecidableLE α]
    (million hundred : α) (iq : IQuery α) (masses minv : Array α) (frags : List (Frag α)) (B : Nat)
    (l l' : List (α × α)) (h : l.Perm l') :
    (runSeq million hundred iq masses minv frags B l).Perm (runSeq million hundred iq masses minv frags B l') :=
  h.map _

/-! ## non-vacuity: concrete instances

`exFrags` is an 11-fragment, 3-bucket index (`B = 4`, last bucket partial) over 4 peptides two of which
have the same mass; the m/z run `30,30,30,30` starts in bucket 0 and continues in bucket 1, and `exQ`'s
fragment window `[30, 30]` touches bucket 1's `min_value` inside that run. -/

def exArr : Array Nat := #[1, 2, 2, 3, 5]
def exMasses : Array Nat := #[100, 100, 105, 110]
def exMinv : Array Nat := #[10, 30, 40]
def exFrags : List (Frag Nat) :=
  [⟨0, 20⟩, ⟨1, 10⟩, ⟨2, 30⟩, ⟨3, 20⟩,   ⟨0, 30⟩, ⟨1, 30⟩, ⟨2, 40⟩, ⟨3, 30⟩,   ⟨1, 40⟩, ⟨2, 60⟩, ⟨3, 50⟩]
def exQ : Q Nat := { fragLo := 30, fragHi := 30, preLo := 100, preHi := 105 }
def pairs (l : List (Frag Nat)) : List (Nat × Nat) := l.map fun f => (f.pep, f.mz)

/-- hypotheses of `bss_covers` / `bss_tight` / `bss_canonical` are met: a sorted slice with a run of equal keys -/
example : SortedArr exArr := sortedAdj_sound _ (by decide +kernel)
example : bssWith binSearch exArr 2 3 = (0, 4) := by decide +kernel
example : BssSpec exArr 2 3 0 4 := by
  have := bssWith_spec binSearch binSearch_ok exArr (sortedAdj_sound _ (by decide +kernel)) 2 3
  rwa [(by decide +kernel : bssWith binSearch exArr 2 3 = (0, 4))] at this
/-- the covering conclusion is not trivial: indices 1,2,3 hold in-bounds elements and lie in `[0, 4)`,
    index 4 (value 5) is excluded -/
example : (bss exArr 2 3 (binSearch exArr 2) 2).1 ≤ 1 ∧ 3 < (bss exArr 2 3 (binSearch exArr 2) 2).2 := by decide +kernel

/-- hypotheses of `pageSearch_exact` are met by the example index … -/
example : DbInv exMasses exMinv exFrags 4 := dbInvOk_sound _ _ _ _ (by decide +kernel)
/-- … and the result is a proper, non-empty part of the stored fragments, drawn from two buckets -/
example : pairs (pageSearchC exMasses exMinv exFrags 4 exQ) = [(2, 30), (0, 30), (1, 30)] := by decide +kernel
example : pairs (scan exMasses exFrags exQ) = [(2, 30), (0, 30), (1, 30)] := by decide +kernel
example : pairs (pageSearchA exMasses exMinv exFrags.toArray 4 exQ) = [(2, 30), (0, 30), (1, 30)] := by decide +kernel
example : pairs (pageSearchFast exMasses exMinv exFrags 4 exQ) = [(2, 30), (0, 30), (1, 30)] := by decide +kernel
/-- the edge filter matters: peptide 3 (mass 110) is rejected at `pre_idx_hi`-side, peptide 2 (mass 105) kept -/
example : edgeFilter exMasses exQ 0 3 ⟨3, 30⟩ = false ∧ edgeFilter exMasses exQ 0 3 ⟨2, 30⟩ = true := by decide +kernel

/-- hypotheses of `buildIndex_inv` / `bucket_size_irrelevant_build` are met (the same ions, B = 4 vs 3) -/
example : ∃ minv frags, buildIndex 3 exFrags = some (minv, frags) ∧ DbInv exMasses minv frags 3 ∧ frags.Perm exFrags :=
  buildIndex_inv 3 (by decide) exMasses (sortedAdj_sound _ (by decide +kernel)) exFrags (by decide)
/-- the layout `buildIndex 3 exFrags` evaluates to (`#eval`; the kernel cannot unfold the well-founded
    `mergeSort`, so it is restated here) passes the check: 4 buckets, last one partial, the run of 30s
    spans buckets 1 and 2, so `min_value` has a duplicate -/
example : dbInvOk exMasses #[10, 30, 30, 50]
    [⟨0, 20⟩, ⟨1, 10⟩, ⟨3, 20⟩,  ⟨0, 30⟩, ⟨1, 30⟩, ⟨2, 30⟩,  ⟨1, 40⟩, ⟨2, 40⟩, ⟨3, 30⟩,  ⟨2, 60⟩, ⟨3, 50⟩] 3 = true := by decide +kernel
example : pairs (pageSearchC exMasses #[10, 30, 30, 50]
    [⟨0, 20⟩, ⟨1, 10⟩, ⟨3, 20⟩,  ⟨0, 30⟩, ⟨1, 30⟩, ⟨2, 30⟩,  ⟨1, 40⟩, ⟨2, 40⟩, ⟨3, 30⟩,  ⟨2, 60⟩, ⟨3, 50⟩] 3 exQ)
    = [(0, 30), (1, 30), (2, 30)] := by decide +kernel
/-- a broken layout (bucket 1 not sorted by peptide index) is rejected by the check -/
example : dbInvClause exMasses exMinv
    [⟨0, 20⟩, ⟨1, 10⟩, ⟨2, 30⟩, ⟨3, 20⟩,   ⟨1, 30⟩, ⟨0, 30⟩, ⟨2, 40⟩, ⟨3, 30⟩,   ⟨1, 40⟩, ⟨2, 60⟩, ⟨3, 50⟩] 4 = "keysSorted" := by decide +kernel

/-- non-vacuity of the sequence theorems: a non-monotone sequence through one query object on the 3-bucket
    example index — the lookup of 30 after the higher 60 (and again after 20, and as `15 × charge 2`) still
    sees buckets 0 and 1 -/
example : (runSeq 1000000 100 (mkQuery 1000000 100 exMasses (.da 0 5) (.da 0 0) 100) exMasses exMinv exFrags 4
    [(60, 1), (30, 1), (15, 2), (20, 1), (30, 1)]).map (Option.map pairs)
    = [some [(2, 60)], some [(2, 30), (0, 30), (1, 30)], some [(2, 30), (0, 30), (1, 30)], some [(0, 20)],
       some [(2, 30), (0, 30), (1, 30)]] := by decide +kernel

end Sage.C03
