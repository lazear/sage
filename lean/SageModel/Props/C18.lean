import SageModel.Model.Select
import SageModel.Model.C18
import SageModel.Lemmas.C18Select
import SageModel.Props.C10
import Mathlib.Algebra.Order.Field.Rat
import Mathlib.Tactic.NormNum
import Mathlib.Tactic.Ring

/-!
# C18 — TMT reporter intensities are the most intense peak within 20 ppm of each channel

Property text: *For every spectrum at the configured MS level, each reporter channel's reported value
is the intensity of the most intense peak whose m/z lies within ±20 ppm of that channel's reporter
m/z, or 0 if there is none: one value per channel in plex order, keyed by file and scan identifier (at
MS3, by the precursor's scan reference). Peaks outside every channel window never influence the
result, spectra of other levels produce no row, and with MS2-level quantification the reporter region
is exempt from deisotoping.*

The theorems are about `Sage.Select.selectCore` / `select` (model of `select_most_intense_peak`: for every answer
of std's binary search, and with the search plugged in) and `Sage.C18.quantify` / `findReporterIons` / `minDeisotopeMz` (models of
`tmt::quantify`, `find_reporter_ions`, and the `min_deisotope_mz` expression of runner.rs), for peak
lists of every length, every plex (incl. user-defined masses), every level. Order-only theorems are
stated for an arbitrary linear order; arithmetic ones in ℚ (f32 rounding of the window edges — three
roundings, < 1 ulp each — is modelled, not verified: the driver evaluates the m/z-space definition on
the implementation's outputs with a guard band of 2⁻²¹·(|label| + PROTON) around each edge).

Hypotheses, and what happens outside them:
* peaks sorted by mass (the `ProcessedSpectrum` invariant, established by C10). Unsorted peaks: the
  binary search may miss in-window peaks; nothing is claimed.
* intensities ≥ 0 for the "some ⇔ a peak lies in the window" reading. Without it (`select_spec` has no
  sign hypothesis): `max_int` starts at 0 and the test is `>=`, so a peak of negative intensity is
  never selected (all-negative window ⇒ `None` ⇒ reported value 0), a peak of intensity exactly 0 IS
  selected (value 0 either way), and among equally intense peaks the last (highest mass) wins.
-/

deriving instance DecidableEq for Sage.Select.Peak

namespace Sage.C18
open Sage.Select

theorem specIdOf_of_ne_one {α : Type} (level : Nat) (s : Spectrum α) (h : level ≠ 1) :
    specIdOf level s = some (if level = 2 then s.id else firstRef s) := by
  match level, h with
  | 0, _ => rfl
  | 2, _ => rfl
  | n + 3, _ => simp [specIdOf]

section
-- the classes `quantify` is defined over: its shape depends on no order law
variable {α : Type} [LT α] [DecidableLT α] [LE α] [DecidableLE α] [Add α] [Mul α] [Div α] [Neg α]
  [OfNat α 1000000] [OfNat α 100] [OfNat α 0]

theorem quantify_rows (proton : α) (spectra : List (Spectrum α)) (labels : List α) (tol : Tol α) (level : Nat) :
    quantify proton spectra labels tol level =
      if level = 1 then [] else
      (spectra.filter (fun s => s.level == level)).map fun s =>
        { specId := if level = 2 then s.id else firstRef s, fileId := s.fileId, injTime := s.injTime,
          peaks := labels.map fun label => intensityOr0 (select s.peaks label tol (some (-proton))) } := by
  unfold quantify
  split
  next h => subst h; exact List.filterMap_eq_nil_iff.mpr fun _ _ => rfl
  next h =>
    simp only [specIdOf_of_ne_one _ _ h, List.filterMap_eq_map', findReporterIons, List.map_map, Function.comp_def]

theorem quantify_congr_peaks (proton : α) (spectra : List (Spectrum α)) (labels : List α) (tol : Tol α) (level : Nat)
    (f : List (Peak α) → List (Peak α))
    (h : ∀ s ∈ spectra, ∀ label ∈ labels,
      select (f s.peaks) label tol (some (-proton)) = select s.peaks label tol (some (-proton))) :
    quantify proton (spectra.map fun s => { s with peaks := f s.peaks }) labels tol level
      = quantify proton spectra labels tol level := by
  rw [quantify_rows, quantify_rows]
  split
  · rfl
  · rw [List.filter_map, List.map_map]
    exact List.map_congr_left fun s hs => congrArg (Row.mk _ _ _) (List.map_congr_left fun label hl =>
      congrArg intensityOr0 (h s (List.mem_filter.mp hs).1 label hl))

end

/-- the shape of the reporter table, for every number type, plex (any label list),
tolerance and spectrum list: no row at level 1, otherwise exactly one row per spectrum of the configured level;
every row carries exactly one value per channel (`labels.length`); and a run whose spectra are all of other levels
produces no row at all. -/
theorem rows_shape {α : Type} [LinearOrder α] [Add α] [Mul α] [Div α] [Neg α]
    [OfNat α 1000000] [OfNat α 100] [OfNat α 0]
    (proton : α) (spectra : List (Spectrum α)) (labels : List α) (tol : Tol α) (level : Nat) :
    (quantify proton spectra labels tol level).length =
      (if level = 1 then 0 else (spectra.filter (fun s => s.level == level)).length) ∧
    (∀ r ∈ quantify proton spectra labels tol level, r.peaks.length = labels.length) ∧
    ((∀ s ∈ spectra, s.level ≠ level) → quantify proton spectra labels tol level = []) := by
  rw [quantify_rows]
  by_cases h1 : level = 1
  · rw [if_pos h1, if_pos h1]
    exact ⟨rfl, fun _ hr => absurd hr List.not_mem_nil, fun _ => rfl⟩
  · rw [if_neg h1, if_neg h1]
    refine ⟨List.length_map _, fun r hr => ?_, fun h => ?_⟩
    · obtain ⟨s, _, rfl⟩ := List.mem_map.mp hr
      exact List.length_map _
    · rw [List.filter_eq_nil_iff.mpr fun s hs => by simpa using h s hs]
      rfl

/-- the window of a channel in mass space, as `find_reporter_ions` computes it -/
def chanWindow {α : Type} [Add α] [Mul α] [Div α] [Neg α] [OfNat α 1000000] [OfNat α 100] [OfNat α 0]
    (proton : α) (tol : Tol α) (label : α) : α × α :=
  window label tol (some (-proton))

def inSomeWindow {α : Type} [LE α] [DecidableLE α] [Add α] [Mul α] [Div α] [Neg α]
    [OfNat α 1000000] [OfNat α 100] [OfNat α 0]
    (proton : α) (tol : Tol α) (labels : List α) (p : Peak α) : Bool :=
  labels.any fun label => inWin (chanWindow proton tol label).1 (chanWindow proton tol label).2 p

/-- `select_most_intense_peak` on peaks sorted by mass, for EVERY answer of std's
    two binary searches (`rLo ≤ len`, `rHi` arbitrary), with `W` = the peaks of the list in the closed window
    `[lo, hi]`: either it returns `None` and every peak of `W` has intensity `< 0`, or it returns `Some p` with
    `p ∈ W`, `p.intensity ≥ 0`, no peak of `W` more intense, and every peak of `W` after `p` strictly less intense
    (ties go to the last, i.e. highest-mass, peak). No hypothesis on the sign of intensities. -/
theorem select_spec {α : Type} [LinearOrder α] [OfNat α 0] (peaks : List (Peak α)) (lo hi : α) (rLo rHi : Nat)
    (hs : peaks.Pairwise (fun a b => a.mass ≤ b.mass)) (hr : rLo ≤ peaks.length) :
    (selectCore peaks lo hi rLo rHi = none ∧ ∀ q ∈ inWindow peaks lo hi, q.intensity < 0) ∨
    (∃ p, selectCore peaks lo hi rLo rHi = some p ∧
      (p ∈ peaks ∧ lo ≤ p.mass ∧ p.mass ≤ hi) ∧ (0 : α) ≤ p.intensity ∧
      (∀ q ∈ inWindow peaks lo hi, q.intensity ≤ p.intensity) ∧
      ∃ W1 W2, inWindow peaks lo hi = W1 ++ p :: W2 ∧ ∀ q ∈ W2, q.intensity < p.intensity) := by
  rw [selectCore_eq_scan peaks lo hi rLo rHi hs hr]
  rcases scan_spec peaks lo hi with h | ⟨p, h1, h2, h3, W1, W2, h5, h6⟩
  · exact .inl h
  · exact .inr ⟨p, h1, (mem_inWindow peaks lo hi p).mp (by rw [h5]; simp), h2, h3, W1, W2, h5, h6⟩

/-- non-vacuity: three peaks in the window `[10, 12]`, the two most intense tied — the later one wins;
    the answers `rLo = 4`, `rHi = 0` of the binary searches are deliberately useless -/
example : selectCore (α := Int) [⟨9, 50⟩, ⟨10, 7⟩, ⟨11, 7⟩, ⟨12, 3⟩, ⟨13, 99⟩] 10 12 4 0 = some ⟨11, 7⟩ := by decide +kernel

/-- with non-negative intensities: a peak is returned iff some peak lies in the window -/
theorem select_some_iff {α : Type} [LinearOrder α] [OfNat α 0] (peaks : List (Peak α)) (lo hi : α) (rLo rHi : Nat)
    (hs : peaks.Pairwise (fun a b => a.mass ≤ b.mass)) (hr : rLo ≤ peaks.length)
    (hpos : ∀ q ∈ peaks, (0 : α) ≤ q.intensity) :
    (selectCore peaks lo hi rLo rHi).isSome = true ↔ ∃ q ∈ peaks, lo ≤ q.mass ∧ q.mass ≤ hi := by
  rcases select_spec peaks lo hi rLo rHi hs hr with ⟨h1, h2⟩ | ⟨p, h1, h2, _⟩
  · rw [h1]
    exact iff_of_false Bool.false_ne_true fun ⟨q, hq, hw⟩ =>
      absurd (hpos q hq) (not_le.mpr (h2 q ((mem_inWindow peaks lo hi q).mpr ⟨hq, hw⟩)))
  · rw [h1]
    exact iff_of_true rfl ⟨p, h2⟩

/-- what happens with a negative intensity: the only in-window peak is not returned -/
example : selectCore (α := Int) [⟨10, -1⟩] 9 11 1 0 = none := by decide +kernel
/-- … and a zero-intensity peak is returned -/
example : selectCore (α := Int) [⟨10, 0⟩] 9 11 1 0 = some ⟨10, 0⟩ := by decide +kernel

/-- the executable `select` (std's binary search loop plugged in, window from
    `Tolerance::bounds` plus offset) is the linear scan over the window it computes -/
theorem select_exec {α : Type} [LinearOrder α] [Add α] [Mul α] [Div α] [OfNat α 1000000] [OfNat α 100] [OfNat α 0]
    (peaks : List (Peak α)) (center : α) (tol : Tol α) (offset : Option α)
    (hs : peaks.Pairwise (fun a b => a.mass ≤ b.mass)) :
    select peaks center tol offset =
      scan peaks (window center tol offset).1 (window center tol offset).2 := by
  unfold select
  exact selectIn_eq_scan peaks _ _ hs

theorem inMzWindow_iff (lo hi label mz : ℚ) :
    inMzWindow lo hi label mz = true ↔ label * (1 + lo / 1000000) ≤ mz ∧ mz ≤ label * (1 + hi / 1000000) := by
  simp [inMzWindow]

theorem window_ppm (P label lo hi : ℚ) :
    window label (.ppm lo hi) (some (-P)) =
      (label * (1 + lo / 1000000) - P, label * (1 + hi / 1000000) - P) := by
  simp only [window, Tol.bounds, Option.getD_some]
  exact Prod.ext (by ring) (by ring)

theorem inWin_chanWindow (P label lo hi : ℚ) (p : Peak ℚ) :
    inWin (chanWindow P (.ppm lo hi) label).1 (chanWindow P (.ppm lo hi) label).2 p =
      inMzWindow lo hi label (p.mass + P) := by
  rw [chanWindow, window_ppm]
  simp only [inWin, inMzWindow, sub_le_iff_le_add, le_sub_iff_add_le]

/-- the mass-space window of `find_reporter_ions`
    (`Tolerance::Ppm(lo, hi).bounds(label)` shifted by `-PROTON`) applied to a stored peak
    (`mass = mz − PROTON`) is the ppm window around the label in m/z space. For `lo = −20`, `hi = 20`:
    `label·(1 − 20·10⁻⁶) ≤ mz ≤ label·(1 + 20·10⁻⁶)`. Exact in ℚ. -/
theorem window_in_mz_space (P label lo hi mz i : ℚ) :
    inWin (chanWindow P (.ppm lo hi) label).1 (chanWindow P (.ppm lo hi) label).2 ⟨mz - P, i⟩ = true ↔
      label * (1 + lo / 1000000) ≤ mz ∧ mz ≤ label * (1 + hi / 1000000) := by
  rw [inWin_chanWindow, inMzWindow_iff, sub_add_cancel]

/-- non-vacuity: TMT channel 126 (126.127726), a peak 10 ppm above is inside, one 30 ppm above is not -/
example : inWin (chanWindow Sage.Gen.PROTON (.ppm (-20) 20) (126127726/1000000 : ℚ)).1
    (chanWindow Sage.Gen.PROTON (.ppm (-20) 20) (126127726/1000000 : ℚ)).2
    ⟨126127726/1000000 * (1 + 10/1000000) - Sage.Gen.PROTON, 1⟩ = true := by
  decide +kernel
example : ¬ inWin (chanWindow Sage.Gen.PROTON (.ppm (-20) 20) (126127726/1000000 : ℚ)).1
    (chanWindow Sage.Gen.PROTON (.ppm (-20) 20) (126127726/1000000 : ℚ)).2
    ⟨126127726/1000000 * (1 + 30/1000000) - Sage.Gen.PROTON, 1⟩ = true := by
  decide +kernel

theorem channel_value_spec (P lo hi : ℚ) (peaks : List (Peak ℚ)) (label : ℚ)
    (hs : peaks.Pairwise (fun a b => a.mass ≤ b.mass)) :
    intensityOr0 (select peaks label (.ppm lo hi) (some (-P))) = channelSpec P lo hi peaks label := by
  rw [select_exec peaks label _ _ hs, scan_value]
  unfold channelSpec maxIntensity inWindow
  congr 2
  exact List.filter_congr fun p _ => inWin_chanWindow P label lo hi p

/-- for every list of spectra whose peak lists are sorted by mass, every label
    list (any plex, incl. user-defined), every ppm tolerance (the runner passes −20, 20) and every level,
    `tmt::quantify` returns exactly `quantifySpec`: no row for level 1, otherwise one row per spectrum of the
    requested level, in input order; keyed by the spectrum's own id at level 2 and by the FIRST precursor's
    `spectrum_ref` at any other level (empty string when there is none), with file id and ion-injection time; one
    value per label, in label order, each the maximum intensity over the peaks whose m/z (= stored mass + PROTON)
    lies in `[label·(1+lo·10⁻⁶), label·(1+hi·10⁻⁶)]`, 0 if there is none (a negative intensity counts as absent). -/
theorem reporter_spec (P lo hi : ℚ) (spectra : List (Spectrum ℚ)) (labels : List ℚ) (level : Nat)
    (hs : ∀ s ∈ spectra, s.peaks.Pairwise (fun a b => a.mass ≤ b.mass)) :
    quantify P spectra labels (.ppm lo hi) level = quantifySpec P lo hi spectra labels level := by
  rw [quantify_rows]
  unfold quantifySpec keySpec
  split
  · rfl
  · exact List.map_congr_left fun s hsm => congrArg (Row.mk _ _ _) (List.map_congr_left fun label _ =>
      channel_value_spec P lo hi s.peaks label (hs s (List.mem_filter.mp hsm).1))

/-- non-vacuity: a two-channel user plex (126, 127), an MS2 and an MS3 spectrum, quantified at level 3:
    one row, keyed by the precursor's reference, values 5 (two peaks in the window, the larger) and 0 -/
example :
    (quantify (1 : ℚ)
      [ { level := 2, id := "ms2", fileId := 0, injTime := 1, precursors := [], peaks := [⟨125, 9⟩] },
        { level := 3, id := "ms3", fileId := 4, injTime := 2, precursors := [some "ms2", some "x"],
          peaks := [⟨124, 8⟩, ⟨1249999/10000, 3⟩, ⟨125, 5⟩, ⟨1255/10, 7⟩] } ]
      [126, 127] (.ppm (-20) 20) 3).map (fun r => (r.specId, r.fileId, r.peaks)) = [("ms2", 4, [5, 0])] := by
  decide +kernel

/-- peaks outside every channel window never influence the result:
    removing them from every spectrum leaves `quantify` unchanged (any linear order, any tolerance kind). -/
theorem outside_irrelevant {α : Type} [LinearOrder α] [Add α] [Mul α] [Div α] [Neg α]
    [OfNat α 1000000] [OfNat α 100] [OfNat α 0]
    (proton : α) (spectra : List (Spectrum α)) (labels : List α) (tol : Tol α) (level : Nat)
    (hs : ∀ s ∈ spectra, s.peaks.Pairwise (fun a b => a.mass ≤ b.mass)) :
    quantify proton (spectra.map fun s => { s with peaks := s.peaks.filter (inSomeWindow proton tol labels) })
        labels tol level
      = quantify proton spectra labels tol level := by
  refine quantify_congr_peaks proton spectra labels tol level (List.filter (inSomeWindow proton tol labels))
    fun s hsm label hl => ?_
  rw [select_exec _ _ _ _ ((hs s hsm).filter _), select_exec _ _ _ _ (hs s hsm)]
  exact scan_filter fun p _ hw => List.any_eq_true.mpr ⟨label, hl, hw⟩

/-- non-vacuity: the out-of-window peaks (mass 100 and 130) are dropped by the filter, the result is the same -/
example : (([⟨100, 9⟩, ⟨125, 5⟩, ⟨130, 9⟩] : List (Peak ℚ)).filter
    (inSomeWindow (1 : ℚ) (.ppm (-20) 20) [126])) = [⟨125, 5⟩] := by
  decide +kernel

/-- all pairs of a table: the upper edge (+20 ppm) of the earlier channel lies strictly below the lower
    edge (−20 ppm) of the later one (in particular the table is strictly increasing) -/
def windowsDisjoint : List ℚ → Bool
  | [] => true
  | a :: rest =>
    rest.all (fun b => decide (a * (1 + 20 / 1000000) < b * (1 + (-20) / 1000000))) && windowsDisjoint rest

theorem windowsDisjoint_iff (l : List ℚ) :
    windowsDisjoint l = true ↔ l.Pairwise (fun a b => a * (1 + 20 / 1000000) < b * (1 + (-20) / 1000000)) := by
  induction l with
  | nil => exact iff_of_true rfl List.Pairwise.nil
  | cons a rest ih =>
    simp only [windowsDisjoint, Bool.and_eq_true, List.all_eq_true, decide_eq_true_eq, List.pairwise_cons, ih]

theorem windowsDisjoint_take (n : Nat) (l : List ℚ) (h : windowsDisjoint l = true) :
    windowsDisjoint (l.take n) = true :=
  (windowsDisjoint_iff _).mpr (((windowsDisjoint_iff l).mp h).sublist (List.take_sublist n l))

/-- for each of the five built-in plexes (tables regenerated from tmt.rs, plex →
    slice mapping tied by `tmtconsts`), the ±20 ppm windows of any two channels are disjoint -/
theorem tables_disjoint (plex : Plex ℚ) (hb : plex.builtin = true) :
    windowsDisjoint (reporterMasses tablesQ plex) = true := by
  have h11 : windowsDisjoint tablesQ.tmt11 = true := by decide +kernel
  have h18 : windowsDisjoint tablesQ.tmt18 = true := by decide +kernel
  cases plex with
  | user l => cases hb
  | tmt6 => decide +kernel
  | tmt10 => exact windowsDisjoint_take 10 _ h11
  | tmt11 => exact h11
  | tmt16 => exact windowsDisjoint_take 16 _ h18
  | tmt18 => exact h18

theorem pairwise_forall {β : Type} {R : β → β → Prop} (l : List β) (h : l.Pairwise R) :
    ∀ a ∈ l, ∀ b ∈ l, a = b ∨ R a b ∨ R b a := fun _ ha _ hb =>
  List.Pairwise.forall_of_forall_of_flip (R := fun a b => a = b ∨ R a b ∨ R b a) (fun _ _ => .inl rfl)
    (h.imp fun h => .inr (.inl h)) (h.imp fun h => .inr (.inr h)) ha hb

/-- a peak feeds at most one channel: if an m/z lies within ±20 ppm of two
    reporter masses of a built-in plex, they are the same channel (127N/127C … 6 mDa apart included) -/
theorem channels_disjoint (plex : Plex ℚ) (hb : plex.builtin = true) (a b mz : ℚ)
    (ha : a ∈ reporterMasses tablesQ plex) (hb' : b ∈ reporterMasses tablesQ plex)
    (h1 : inMzWindow (-20) 20 a mz = true) (h2 : inMzWindow (-20) 20 b mz = true) : a = b := by
  rw [inMzWindow_iff] at h1 h2
  -- otherwise `mz` is at most the upper edge of the earlier and at least the lower edge of the later channel
  rcases pairwise_forall _ ((windowsDisjoint_iff _).mp (tables_disjoint plex hb)) a ha b hb' with h | h | h
  · exact h
  · exact absurd (h1.2.trans_lt (h.trans_le h2.1)) (lt_irrefl _)
  · exact absurd (h2.2.trans_lt (h.trans_le h1.1)) (lt_irrefl _)

/-- non-vacuity: 127N and 127C of the 11-plex are 6.32 mDa apart; their windows (±2.54 mDa) do not meet -/
example : (16662497 / 131072 : ℚ) ∈ reporterMasses tablesQ .tmt11 ∧ (16663325 / 131072 : ℚ) ∈ reporterMasses tablesQ .tmt11 ∧
    (16662497 / 131072 : ℚ) * (1 + 20 / 1000000) < 16663325 / 131072 * (1 + (-20) / 1000000) := by
  decide +kernel

/-- a user-defined plex may have overlapping windows: then one peak feeds both channels (no claim) -/
example : inMzWindow (-20) 20 100 (100001 / 1000) = true ∧ inMzWindow (-20) 20 (100002 / 1000) (100001 / 1000) = true := by
  decide +kernel

theorem foldl_max_le_iff {α : Type} [LinearOrder α] (l : List α) (m v : α) :
    l.foldl max m ≤ v ↔ m ≤ v ∧ ∀ x ∈ l, x ≤ v := by
  induction l generalizing m with
  | nil => simp
  | cons x xs ih => rw [List.foldl_cons, ih, max_le_iff, List.forall_mem_cons, and_assoc]

theorem foldl_max_mem {α : Type} [LinearOrder α] (l : List α) (m : α) :
    l.foldl max m = m ∨ l.foldl max m ∈ l := by
  induction l generalizing m with
  | nil => exact .inl rfl
  | cons y ys ih =>
    rw [List.foldl_cons]
    rcases ih (max m y) with h | h
    · rw [h]
      exact (max_choice m y).imp_right fun h' => List.mem_cons.mpr (.inl h')
    · exact .inr (List.mem_cons_of_mem _ h)

theorem fmax_eq_max {α : Type} [LinearOrder α] : (fmax : α → α → α) = max := by
  funext a b
  unfold fmax
  split
  · exact (max_eq_right (le_of_lt ‹_›)).symm
  · exact (max_eq_left (not_lt.mp ‹_›)).symm

/-- `reduce(f32::max)` returns the largest element of a non-empty list -/
theorem maxOf_spec (labels : List ℚ) (hne : labels ≠ []) :
    ∃ M, maxOf labels = some M ∧ M ∈ labels ∧ ∀ l ∈ labels, l ≤ M := by
  cases labels with
  | nil => exact absurd rfl hne
  | cons x xs =>
    refine ⟨xs.foldl max x, by rw [maxOf, fmax_eq_max], ?_, ?_⟩
    · exact List.mem_cons.mpr (foldl_max_mem xs x)
    · exact List.forall_mem_cons.mpr ((foldl_max_le_iff xs x _).mp le_rfl)

/-- with MS2-level quantification, for EVERY label list (user-defined
    plex) that contains a positive mass, in whatever order the masses are listed (after fix e4ac756 the guard uses
    the heaviest reporter): `min_deisotope_mz = max mass × f32(1.0 + 20E-6)` exists and lies strictly above the upper
    edge (+20 ppm) of every channel window -/
theorem reporter_region_protected_user (labels : List ℚ) (hpos : ∃ l ∈ labels, 0 < l) :
    ∃ m, minDeisotopeMz labels 2 guardFactorQ = some m ∧ ∀ l ∈ labels, l * (1 + 20 / 1000000) < m := by
  obtain ⟨l0, hl0, hl0pos⟩ := hpos
  obtain ⟨M, hM, _, hmax⟩ := maxOf_spec labels (List.ne_nil_of_mem hl0)
  refine ⟨M * guardFactorQ, by rw [minDeisotopeMz, hM]; rfl, fun l hl => ?_⟩
  calc l * (1 + 20 / 1000000) ≤ M * (1 + 20 / 1000000) := mul_le_mul_of_nonneg_right (hmax l hl) (by norm_num)
    _ < M * guardFactorQ := mul_lt_mul_of_pos_left (by decide +kernel) (hl0pos.trans_le (hmax l0 hl0))

/-- with MS2-level quantification and a built-in plex,
    `min_deisotope_mz = heaviest reporter mass × f32(1.0 + 20E-6)` exists and lies strictly above the upper
    edge (+20 ppm) of EVERY channel window, so no peak inside a reporter window satisfies the deisotoper's
    `mz >= min_mz` test (C10 `protected_region` then says such peaks are neither merged nor removed). -/
theorem reporter_region_protected (plex : Plex ℚ) (hb : plex.builtin = true) :
    ∃ m, minDeisotopeMz (reporterMasses tablesQ plex) 2 guardFactorQ = some m ∧
      ∀ l ∈ reporterMasses tablesQ plex, l * (1 + 20 / 1000000) < m := by
  -- every built-in table starts with a positive mass
  refine reporter_region_protected_user _ ?_
  cases plex with
  | user l => cases hb
  | _ => decide +kernel

/-- non-vacuity: for the unsorted `User([131, 126])` the guard is 131·f32(1.0 + 20E-6), above both windows
    (before sage's fix e4ac756 `.last()` gave 126·f, below the whole 131 window) -/
example : minDeisotopeMz ([131, 126] : List ℚ) 2 guardFactorQ = some (131 * guardFactorQ) ∧
    (131 : ℚ) * (1 + 20 / 1000000) < 131 * guardFactorQ ∧ (126 : ℚ) * (1 + 20 / 1000000) < 131 * guardFactorQ := by
  decide +kernel

example : ∃ m, minDeisotopeMz ([131, 126] : List ℚ) 2 guardFactorQ = some m ∧
    ∀ l ∈ ([131, 126] : List ℚ), l * (1 + 20 / 1000000) < m :=
  reporter_region_protected_user _ ⟨131, by simp, by norm_num⟩

/-- at any level other than 2 there is no `min_deisotope_mz`
    (the processor gets `0.0`: deisotoping everywhere) -/
theorem no_guard_other_levels (labels : List ℚ) (level : Nat) (h : level ≠ 2) (f : ℚ) :
    minDeisotopeMz labels level f = none := by
  unfold minDeisotopeMz
  split
  · exact absurd rfl h
  · rfl

example : minDeisotopeMz ([126, 131] : List ℚ) 3 guardFactorQ = none := no_guard_other_levels _ 3 (by decide) _

theorem maxIntensity_le_iff (l : List ℚ) (v : ℚ) : maxIntensity l ≤ v ↔ 0 ≤ v ∧ ∀ x ∈ l, x ≤ v :=
  foldl_max_le_iff l 0 v

theorem maxIntensity_mem (l : List ℚ) : maxIntensity l = 0 ∨ maxIntensity l ∈ l := foldl_max_mem l 0

theorem maxIntensity_mono {l1 l2 : List ℚ} (h : l1 ⊆ l2) : maxIntensity l1 ≤ maxIntensity l2 :=
  have h2 := (maxIntensity_le_iff l2 _).mp le_rfl
  (maxIntensity_le_iff l1 _).mpr ⟨h2.1, fun x hx => h2.2 x (h hx)⟩

theorem maxIntensity_perm {l1 l2 : List ℚ} (h : l1.Perm l2) : maxIntensity l1 = maxIntensity l2 :=
  le_antisymm (maxIntensity_mono h.subset) (maxIntensity_mono h.symm.subset)

theorem mem_intensitiesIn (P : ℚ) (peaks : List (Peak ℚ)) (e : ℚ × ℚ) (x : ℚ) :
    x ∈ intensitiesIn P peaks e ↔ ∃ p ∈ peaks, (e.1 ≤ p.mass + P ∧ p.mass + P ≤ e.2) ∧ p.intensity = x := by
  simp only [intensitiesIn, List.mem_map, List.mem_filter, Bool.and_eq_true, decide_eq_true_eq, and_assoc]

/-- a smaller `g` (a wider interval) holds more peaks -/
theorem intensitiesIn_edgesG_mono (P lo hi label : ℚ) (peaks : List (Peak ℚ)) {g g' : ℚ} (h : g' ≤ g) :
    intensitiesIn P peaks (edgesG lo hi label g) ⊆ intensitiesIn P peaks (edgesG lo hi label g') := by
  intro x hx
  simp only [mem_intensitiesIn, edgesG] at hx ⊢
  obtain ⟨p, hp, ⟨ha, hb⟩, rfl⟩ := hx
  exact ⟨p, hp, ⟨(add_le_add_right h _).trans ha, hb.trans (sub_le_sub_left h _)⟩, rfl⟩

theorem channelSpec_eq (P lo hi : ℚ) (peaks : List (Peak ℚ)) (label : ℚ) :
    channelSpec P lo hi peaks label = maxIntensity (intensitiesIn P peaks (edgesG lo hi label 0)) := by
  simp only [channelSpec, intensitiesIn, edgesG, inMzWindow, add_zero, sub_zero]

/-- the peaks surely inside are among those of the exact window, and these among the peaks possibly inside -/
theorem channelOk_model (P lo hi g : ℚ) (hg : 0 ≤ g) (peaks : List (Peak ℚ)) (label : ℚ) :
    channelOk P lo hi g peaks label (channelSpec P lo hi peaks label) = true := by
  have hsure := intensitiesIn_edgesG_mono P lo hi label peaks hg
  have hmaybe := intensitiesIn_edgesG_mono P lo hi label peaks (neg_nonpos.mpr hg)
  rw [channelSpec_eq]
  simp only [channelOk, Bool.and_eq_true, decide_eq_true_eq, Bool.or_eq_true, beq_iff_eq, List.contains_eq_mem]
  exact ⟨⟨maxIntensity_mono hsure, maxIntensity_mono hmaybe⟩, (maxIntensity_mem _).imp_right (@hmaybe _)⟩

/-- without guard band the checker applied to the implementation's value is
    exactly the definition: it accepts `v` iff `v` is the most intense in-window intensity (0 if none) -/
theorem channelOk_exact (P lo hi : ℚ) (peaks : List (Peak ℚ)) (label v : ℚ) :
    channelOk P lo hi 0 peaks label v = true ↔ v = channelSpec P lo hi peaks label := by
  constructor
  · intro h
    rw [channelSpec_eq]
    simp only [channelOk, neg_zero, Bool.and_eq_true, decide_eq_true_eq] at h
    exact le_antisymm h.1.2 h.1.1
  · rintro rfl
    exact channelOk_model P lo hi 0 le_rfl peaks label

theorem channelsOk_model (P lo hi : ℚ) (guard : ℚ → ℚ) (hg : ∀ l, 0 ≤ guard l) (peaks : List (Peak ℚ)) (labels : List ℚ) :
    channelsOk P lo hi guard peaks labels (labels.map (channelSpec P lo hi peaks)) = true := by
  induction labels with
  | nil => rfl
  | cons l ls ih =>
    simp only [List.map_cons, channelsOk, Bool.and_eq_true]
    exact ⟨channelOk_model P lo hi (guard l) (hg l) peaks l, ih⟩

theorem matchRows_map {β γ : Type} (ok : β → γ → Bool) (f : β → γ) (l : List β) (h : ∀ s ∈ l, ok s (f s) = true) :
    matchRows ok l (l.map f) = true := by
  induction l with
  | nil => rfl
  | cons s ss ih =>
    simp only [List.map_cons, matchRows, removeFirst, h s List.mem_cons_self, ↓reduceIte]
    exact ih fun t ht => h t (List.mem_cons_of_mem _ ht)

/-- the executable checker the driver applies to the implementation's rows
    accepts the model's rows, for every input with mass-sorted peaks and every non-negative guard band
    (so a rejection is about the implementation, not about the checker) -/
theorem model_meets_spec (P lo hi : ℚ) (guard : ℚ → ℚ) (hg : ∀ l, 0 ≤ guard l)
    (spectra : List (Spectrum ℚ)) (labels : List ℚ) (level : Nat)
    (hs : ∀ s ∈ spectra, s.peaks.Pairwise (fun a b => a.mass ≤ b.mass)) :
    specOk P lo hi guard spectra labels level (quantify P spectra labels (.ppm lo hi) level) = true := by
  rw [reporter_spec P lo hi spectra labels level hs]
  unfold specOk quantifySpec
  split
  · rfl
  · apply matchRows_map
    intro s _
    simp only [rowOk, beq_self_eq_true, Bool.true_and]
    exact channelsOk_model P lo hi guard hg s.peaks labels

theorem guardOf_nonneg (P : ℚ) (hP : 0 ≤ P) (l : ℚ) : 0 ≤ guardOf P l := by
  refine div_nonneg (add_nonneg ?_ hP) (by norm_num)
  split
  · exact neg_nonneg.mpr (le_of_lt ‹_›)
  · exact not_lt.mp ‹_›

/-- the instance the driver uses: PROTON from mass.rs, guard band `2⁻²¹·(|label| + PROTON)` -/
theorem model_meets_spec_driver (lo hi : ℚ) (spectra : List (Spectrum ℚ)) (labels : List ℚ) (level : Nat)
    (hs : ∀ s ∈ spectra, s.peaks.Pairwise (fun a b => a.mass ≤ b.mass)) :
    specOk Sage.Gen.PROTON lo hi (guardOf Sage.Gen.PROTON) spectra labels level
      (quantify Sage.Gen.PROTON spectra labels (.ppm lo hi) level) = true :=
  model_meets_spec _ lo hi _ (guardOf_nonneg _ (by decide +kernel)) spectra labels level hs

/-- non-vacuity of the checker: a wrong value (3 instead of the maximum 5) is rejected, the right one accepted -/
example : channelOk 1 (-20) 20 0 [⟨1249999/10000, 3⟩, ⟨125, 5⟩] 126 3 = false ∧
    channelOk 1 (-20) 20 0 [⟨1249999/10000, 3⟩, ⟨125, 5⟩] 126 5 = true := by
  constructor <;> decide +kernel

/-- a processed peak (C10's model) as a peak of the TMT model -/
def conv (p : Sage.C10.Peak ℚ) : Peak ℚ := ⟨p.mass, p.intensity⟩

/-- intensities of the RAW peaks `(mz, intensity)` whose m/z lies in the channel's ppm window -/
def rawWindow (lo hi label : ℚ) (raw : List (ℚ × ℚ)) : List ℚ :=
  (raw.filter (fun x => inMzWindow lo hi label x.1)).map (·.2)

theorem toMass_rat (mz : ℚ) (z : ℕ) : Sage.C10.toMass mz z = (mz - Sage.Gen.PROTON) * (z : ℚ) := rfl

def qWin (lo hi label : ℚ) (p : Sage.C10.Peak ℚ) : Bool := inMzWindow lo hi label (p.mass + Sage.Gen.PROTON)

theorem qWin_toPeak (lo hi label : ℚ) (x : ℚ × ℚ) :
    qWin lo hi label (Sage.C10.toPeak x) = inMzWindow lo hi label x.1 := by
  rw [qWin, Sage.C10.toPeak, toMass_rat, Nat.cast_one, mul_one, sub_add_cancel]

theorem inMzWindow_of_above {lo hi label mz : ℚ} (h : label * (1 + hi / 1000000) < mz) :
    inMzWindow lo hi label mz = false := by
  rw [inMzWindow, decide_eq_false (not_le.mpr h), Bool.and_false]

theorem filter_map_eq_of_pointwise {δ ι π : Type} {a : δ → Bool} {b : ι → Bool} {t : δ → π} {t' : ι → π}
    {D : List δ} {I : List ι} (hl : D.length = I.length)
    (h : ∀ (p : Nat) (d : δ) (x : ι), D[p]? = some d → I[p]? = some x → a d = b x ∧ (b x = true → t d = t' x)) :
    (D.filter a).map t = (I.filter b).map t' := by
  induction D generalizing I with
  | nil =>
    rw [List.eq_nil_of_length_eq_zero hl.symm]
    rfl
  | cons d D ih =>
    cases I with
    | nil => cases hl
    | cons x I =>
      obtain ⟨hab, ht⟩ := h 0 d x rfl rfl
      have ih' := ih (Nat.succ.inj hl) fun p => h (p + 1)
      rw [List.filter_cons, List.filter_cons, hab]
      split
      · rw [List.map_cons, List.map_cons, ht ‹_›, ih']
      · exact ih'

theorem window_of_plain (lo hi label : ℚ) (raw : List (ℚ × ℚ)) :
    (((raw.map Sage.C10.toPeak).filter (qWin lo hi label)).map (·.intensity)) = rawWindow lo hi label raw := by
  rw [List.filter_map, List.map_map, rawWindow]
  exact congrArg (fun q => (raw.filter q).map _) (funext (qWin_toPeak lo hi label))

/-- deisotoping does not change what a channel window holds when the cutoff lies above the window and above PROTON -/
theorem deiso_window (inp : List (ℚ × ℚ)) (maxz : Nat) (ppm minMz lo hi label : ℚ)
    (hasc : Sage.C10.MzAscending inp) (hP : Sage.Gen.PROTON ≤ minMz) (hg : label * (1 + hi / 1000000) < minMz) :
    ((((Sage.C10.deisotope inp maxz ppm minMz).filter (fun d => d.envelope.isNone)).map Sage.C10.deisoToPeak).filter
      (qWin lo hi label)).map (·.intensity) = rawWindow lo hi label inp := by
  have hshape := Sage.C10.deisotope_shape inp maxz ppm minMz
  rw [List.filter_map, List.filter_filter, List.map_map, rawWindow]
  refine filter_map_eq_of_pointwise hshape.1 fun p d x hd hx => ?_
  by_cases hlt : x.1 < minMz
  · -- below the cutoff: untouched
    obtain rfl := Sage.C10.protected_region inp maxz ppm minMz hasc p d hd x hx hlt
    exact ⟨(Bool.and_true _).trans (qWin_toPeak lo hi label x), fun _ => rfl⟩
  · -- from the cutoff on: outside the window before; after, removed or with a mass that only grew
    have hge : minMz ≤ x.1 := not_lt.mp hlt
    have hab := hg.trans_le hge
    have hx0 : inMzWindow lo hi label x.1 = false := inMzWindow_of_above hab
    refine ⟨Eq.trans ?_ hx0.symm, fun h => absurd (hx0.symm.trans h) Bool.false_ne_true⟩
    cases henv : d.envelope with
    | some e => exact Bool.and_false _
    | none =>
      obtain ⟨x', hx', hmz⟩ := hshape.2 p d hd
      obtain rfl := Option.some.inj (hx.symm.trans hx')
      have hz : (1 : ℚ) ≤ ((d.charge.getD 1 : ℕ) : ℚ) := by
        cases hch : d.charge with
        | none => exact le_of_eq Nat.cast_one.symm
        | some z => exact_mod_cast (Sage.C10.charge_witness inp maxz ppm minMz p d hd henv z hch).1
      refine (Bool.and_true _).trans (inMzWindow_of_above ?_)
      rw [Sage.C10.deisoToPeak, toMass_rat, hmz]
      exact hab.trans_le (sub_le_iff_le_add.mp (le_mul_of_one_le_right (sub_nonneg.mpr (hP.trans hge)) hz))

/-- hypotheses under which the processor cannot change a reporter value -/
structure Exempt (cfg : Sage.C10.Cfg ℚ) (r : Sage.C10.Raw ℚ) (hi : ℚ) (labels : List ℚ) : Prop where
  /-- `max_peaks` does not cut -/
  room : r.peaks.length ≤ cfg.takeTopN
  /-- when the deisotoper runs (MS2, deisotoping on): ascending m/z, and the cutoff lies above every window -/
  ascending : r.level = 2 → cfg.deisotope = true → Sage.C10.MzAscending r.peaks
  above_proton : r.level = 2 → cfg.deisotope = true → Sage.Gen.PROTON ≤ cfg.minDeisoMz
  guard : r.level = 2 → cfg.deisotope = true → ∀ l ∈ labels, l * (1 + hi / 1000000) < cfg.minDeisoMz

theorem process_no_cut {cfg : Sage.C10.Cfg ℚ} {r : Sage.C10.Raw ℚ} (hroom : r.peaks.length ≤ cfg.takeTopN)
    {out : List (Sage.C10.Peak ℚ)} {t : ℚ} (hp : Sage.C10.process cfg r = some (out, t)) :
    out.Perm (if r.level = 2 ∧ cfg.deisotope = true then
      ((Sage.C10.deisotope r.peaks (r.charge.getD 3) (Sage.C10.Num.ofNat 10) cfg.minDeisoMz).filter
        (fun d => d.envelope.isNone)).map Sage.C10.deisoToPeak
      else r.peaks.map Sage.C10.toPeak) := by
  have key : ∀ out', Sage.C10.process cfg r = some (out', Sage.C10.tic out') → out' = out := fun out' h => by
    rw [h] at hp
    exact (Prod.mk.inj (Option.some.inj hp)).1
  by_cases h2 : r.level = 2
  · have hc := Sage.C10.centroid_of_process hp h2
    cases hd : cfg.deisotope
    · obtain ⟨kept, dropped, out', hpo, hperm, hok, _, hlen, _⟩ := Sage.C10.process_nodeiso cfg r h2 hc hd
      obtain rfl := key _ hpo
      -- `kept` has the length of the input, so nothing is dropped
      have hdl : dropped = [] := List.eq_nil_of_length_eq_zero (by
        have := hperm.length_eq
        rw [List.length_map, List.length_append, hlen, Nat.min_eq_left hroom] at this
        omega)
      rw [hdl, List.append_nil] at hperm
      rw [if_neg fun h => Bool.false_ne_true h.2]
      exact hok.trans hperm.symm
    · obtain ⟨R, out', hpo, hR, _, hout, _, _⟩ := Sage.C10.process_deiso cfg r h2 hc hd
      obtain rfl := key _ hpo
      have hRlen : R.length ≤ cfg.takeTopN := by
        rw [hR.length_eq]
        exact (List.length_filter_le _ _).trans ((Sage.C10.deisotope_shape ..).1.trans_le hroom)
      rw [List.take_of_length_le hRlen] at hout
      rw [if_pos ⟨h2, rfl⟩]
      exact hout.trans (hR.map _)
  · obtain ⟨out', hpo, hperm, _, _⟩ := Sage.C10.process_ms1 cfg r h2
    obtain rfl := key _ hpo
    rw [if_neg fun h => h2 h.1]
    exact hperm

theorem processed_window_perm (cfg : Sage.C10.Cfg ℚ) (r : Sage.C10.Raw ℚ) (lo hi : ℚ) (labels : List ℚ)
    (hex : Exempt cfg r hi labels) (out : List (Sage.C10.Peak ℚ)) (t : ℚ)
    (hp : Sage.C10.process cfg r = some (out, t)) (label : ℚ) (hl : label ∈ labels) :
    ((out.filter (qWin lo hi label)).map (·.intensity)).Perm (rawWindow lo hi label r.peaks) := by
  have hperm := ((process_no_cut hex.room hp).filter (qWin lo hi label)).map (·.intensity)
  by_cases h : r.level = 2 ∧ cfg.deisotope = true
  · rw [if_pos h, deiso_window _ _ _ _ lo hi label (hex.ascending h.1 h.2) (hex.above_proton h.1 h.2)
      (hex.guard h.1 h.2 label hl)] at hperm
    exact hperm
  · rw [if_neg h, window_of_plain] at hperm
    exact hperm

-- a lemma of its own: given inline where it is used, unification through `conv` is very slow
theorem sorted_conv (out : List (Sage.C10.Peak ℚ)) (h : out.Pairwise (fun a b => a.mass ≤ b.mass)) :
    (out.map conv).Pairwise (fun a b => a.mass ≤ b.mass) :=
  List.pairwise_map.mpr h

/-- the composed statement, per channel. Let `out` be what
    `SpectrumProcessor::process` (C10's model: MS1/MS3 conversion, MS2 top-N, MS2 deisotoping) returns for a raw
    spectrum, under `Exempt`. Then the value `find_reporter_ions`/`quantify` report for the channel on the PROCESSED peaks is the maximum
    RAW intensity over the raw peaks whose m/z lies within the ppm window of the channel (0 if none):
    neither the mass conversion, nor the sort, nor the top-N selection, nor deisotoping changes a reporter value. -/
theorem processed_channel_spec (cfg : Sage.C10.Cfg ℚ) (r : Sage.C10.Raw ℚ) (lo hi : ℚ) (labels : List ℚ)
    (hex : Exempt cfg r hi labels) (out : List (Sage.C10.Peak ℚ)) (t : ℚ)
    (hp : Sage.C10.process cfg r = some (out, t)) (label : ℚ) (hl : label ∈ labels) :
    intensityOr0 (select (out.map conv) label (.ppm lo hi) (some (-Sage.Gen.PROTON))) =
      maxIntensity (rawWindow lo hi label r.peaks) := by
  have hs := (Sage.C10.process_sorted cfg r out t hp).1
  rw [channel_value_spec _ lo hi _ label (sorted_conv out hs)]
  unfold channelSpec
  rw [← maxIntensity_perm (processed_window_perm cfg r lo hi labels hex out t hp label hl)]
  congr 1
  rw [List.filter_map, List.map_map]
  rfl

/-- the same for the whole row: a raw spectrum of the quantification level (≠ 1), processed
    as the runner does (`processSpec`), gives exactly one row: keyed by its id (level 2) or its first precursor's
    `spectrumRef` (else), with its file id and injection time, and per channel the maximum raw intensity in the
    channel's ppm window. -/
theorem pipeline_row_spec (cfg : Sage.C10.Cfg ℚ) (fileId : Nat) (s : RawSpec ℚ) (lo hi : ℚ) (labels : List ℚ) (level : Nat)
    (hlv : s.level = level) (h1 : level ≠ 1)
    (hex : Exempt cfg { level := s.level, centroid := true, charge := (s.precs.head?).bind (·.charge), peaks := s.peaks } hi labels)
    (sp : Spectrum ℚ) (hsp : processSpec cfg fileId s = some sp) :
    quantify Sage.Gen.PROTON [sp] labels (.ppm lo hi) level =
      [{ specId := if level = 2 then s.id else firstRef sp, fileId := fileId, injTime := s.inj,
         peaks := labels.map fun l => maxIntensity (rawWindow lo hi l s.peaks) }] := by
  unfold processSpec at hsp
  split at hsp
  · cases hsp
  next ps t hproc =>
    obtain rfl := Option.some.inj hsp
    rw [quantify_rows, if_neg h1,
      List.filter_cons_of_pos (p := fun s : Spectrum ℚ => s.level == level) (beq_iff_eq.mpr hlv)]
    exact congrArg (fun v => [Row.mk _ _ _ v])
      (List.map_congr_left fun l hl => processed_channel_spec cfg _ lo hi labels hex ps t hproc l hl)

/-- the configuration the runner builds (`min_deisotope_mz` from the plex at the
    quantification level, `unwrap_or(0.0)`) satisfies `Exempt` (for the runner's +20 ppm) for every spectrum OF THE
    QUANTIFICATION LEVEL with ascending m/z and at most `max_peaks` peaks, for every channel list (built-in or
    user-defined, in any order) that contains a mass ≥ PROTON. -/
theorem runner_exempt (labels : List ℚ) (level maxPeaks : Nat) (deiso : Bool) (r : Sage.C10.Raw ℚ)
    (hlv : r.level = level) (hpos : ∃ l ∈ labels, Sage.Gen.PROTON ≤ l)
    (hasc : Sage.C10.MzAscending r.peaks) (hroom : r.peaks.length ≤ maxPeaks) :
    Exempt { takeTopN := maxPeaks, deisotope := deiso, minDeisoMz := (minDeisotopeMz labels level guardFactorQ).getD 0 }
      r 20 labels := by
  by_cases h : level = 2
  · subst h
    obtain ⟨l0, hl0, hl0P⟩ := hpos
    have hl0pos : 0 < l0 := lt_of_lt_of_le (by decide +kernel) hl0P
    obtain ⟨m, hm, hall⟩ := reporter_region_protected_user labels ⟨l0, hl0, hl0pos⟩
    rw [hm]
    -- `PROTON ≤ l0 ≤ l0·(1 + 20 ppm) < m`
    exact ⟨hroom, fun _ _ => hasc,
      fun _ _ => hl0P.trans ((le_mul_of_one_le_right hl0pos.le (by norm_num)).trans (hall l0 hl0).le), fun _ _ => hall⟩
  · exact ⟨hroom, fun _ _ => hasc, fun h2 => absurd (hlv ▸ h2) h, fun h2 => absurd (hlv ▸ h2) h⟩

/-- a user-defined plex listing the masses of a built-in one is the built-in
    one, for everything the pipeline computes: `reporter_masses()` is the list itself, and `quantify`, the guard and
    `runnerQuant` read the plex only through `reporter_masses()`. -/
theorem user_defined_like_builtin (T : Tables ℚ) (p : Plex ℚ) :
    reporterMasses T (.user (reporterMasses T p)) = reporterMasses T p := rfl

/-- a raw MS2 spectrum: 127N (400) and 128N (300) are 1.003355 apart — 128N is, for the deisotoper, a less intense
    +1 isotope of 127N at charge 1; 134N (100) is the heaviest TMT16 channel; 135.1516 (50) lies above the cutoff;
    500.25 / 500.7517 is a doubly charged fragment pair -/
def raw16 : RawSpec ℚ :=
  { level := 2, id := "scan=2", inj := 25/2,
    precs := [{ mz := 6125/10, charge := some 2, sref := some "scan=1" }],
    peaks := [(127124761/1000000, 400), (128128116/1000000, 300), (134148245/1000000, 100), (1351516/10000, 50),
              (50025/100, 900), (5007517/10000, 400)],
    noise := [] }

/-- the processor configuration the runner builds for TMT16, MS2 quantification, deisotoping on, max_peaks 150 -/
def cfg16 : Sage.C10.Cfg ℚ :=
  { takeTopN := 150, deisotope := true,
    minDeisoMz := (minDeisotopeMz (reporterMasses tablesQ .tmt16) 2 guardFactorQ).getD 0 }

example : Exempt cfg16 { level := 2, centroid := true, charge := some 2, peaks := raw16.peaks } 20 (reporterMasses tablesQ .tmt16) :=
  runner_exempt (reporterMasses tablesQ .tmt16) 2 150 true _ rfl
    ⟨16531813 / 131072, by decide +kernel, by decide +kernel⟩
    (by unfold Sage.C10.MzAscending; decide +kernel) (by decide)

/-- the raw maxima per TMT16 channel: 127N → 400, 128N → 300, 134N → 100, every other channel 0 -/
example : (reporterMasses tablesQ .tmt16).map (fun l => maxIntensity (rawWindow (-20) 20 l raw16.peaks)) =
    [0, 400, 0, 300, 0, 0, 0, 0, 0, 0, 0, 0, 0, 0, 0, 100] := by decide +kernel

-- and the model does compute exactly that row (deisotoping merges 500.7517 into 500.25 but leaves 128N alone)
#guard (processSpec cfg16 0 raw16).map (fun sp =>
    (quantify Sage.Gen.PROTON [sp] (reporterMasses tablesQ .tmt16) (.ppm (-20) 20) 2).map (fun r => (r.specId, r.peaks)))
  == some [("scan=2", [0, 400, 0, 300, 0, 0, 0, 0, 0, 0, 0, 0, 0, 0, 0, 100])]
-- with a cutoff of 0, 128N is folded into 127N and 135.1516 into 134N (with cutoff − PROTON, the latter only)
#guard (processSpec ({ cfg16 with minDeisoMz := 0 } : Sage.C10.Cfg ℚ) 0 raw16).map (fun sp =>
    (quantify Sage.Gen.PROTON [sp] (reporterMasses tablesQ .tmt16) (.ppm (-20) 20) 2).map (·.peaks))
  == some [[0, 700, 0, 0, 0, 0, 0, 0, 0, 0, 0, 0, 0, 0, 0, 150]]

/-- every entry of the three reporter tables of tmt.rs (regenerated on every run)
    lies within 10⁻⁵ Th of the published TMT / TMTpro reporter m/z at the same position: a wrong, missing or
    swapped table entry breaks this theorem (and the `tmtconsts` verdict). -/
theorem tables_match_reference : tablesMatchReference tablesQ = true := by decide +kernel

/-- non-vacuity: the check does reject a table with two channels swapped, and one with an entry 0.1 mTh off -/
example : matchesReference [127124761 / 1000000, 126127726 / 1000000] [126127726 / 1000000, 127124761 / 1000000] = false := by
  decide +kernel
example : matchesReference [1261278 / 10000] [126127726 / 1000000] = false := by decide +kernel

end Sage.C18
