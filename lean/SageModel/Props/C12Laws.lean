import SageModel.Props.C12Rle
import Mathlib.Tactic.Positivity
import Mathlib.Algebra.Order.Field.Rat

/-!
# C12 — further laws of the spectrum q-value model

Which fields the function reads and writes (the junk-seed stream of op `specq` is the run-time
counterpart: it fills every other `Feature` field and a stale `spectrum_q` with seed-dependent values,
and the reply carries a `frame` bit); the classical formulation; prefix and suffix laws, with two
counterexamples showing that neither side alone determines a q-value; the passing count; closed forms
for all-decoy and all-target lists.
-/

namespace Sage.C12

theorem fwdPsm_q {α : Type} (cv : Nat → Nat) (d t : Nat) (ps : List (Psm α)) :
    (fwdPsm cv d t ps).map (·.spectrumQ) = (counts d t (ps.map isDecoy)).map (ratioC cv) := by
  induction ps generalizing d t with
  | nil => rfl
  | cons p ps ih => simp only [fwdPsm, List.map_cons, counts, isDecoy, ih]

theorem bwdPsm_q {α : Type} (ps : List (Psm α)) :
    (bwdPsm ps).1.map (·.spectrumQ) = (cummin (ps.map (·.spectrumQ))).map some ∧
    (bwdPsm ps).2.1 = hd (cummin (ps.map (·.spectrumQ))) ∧
    (bwdPsm ps).2.2 = ((cummin (ps.map (·.spectrumQ))).filter (fun q => decide (q ≤ 1/100))).length := by
  induction ps with
  | nil => exact ⟨rfl, rfl, rfl⟩
  | cons p ps ih =>
    obtain ⟨ih1, ih2, ih3⟩ := ih
    simp only [bwdPsm, List.map_cons, cummin, ih1, ih2, ih3, hd_cons, List.filter_cons, decide_eq_true_eq,
      true_and]
    split <;> rfl

/-- **C12.psm_q_eq** — the record-level model (two passes over PSM records, reading the label with
    `== -1` and reading/writing the `spectrum_q` field) computes the label-list model applied to
    the decoy flags, whatever the records held in `spectrum_q` and in every other field on entry -/
theorem psm_q_eq {α : Type} (cv : Nat → Nat) (ps : List (Psm α)) :
    (spectrumQPsm cv ps).1.map (·.spectrumQ) = (spectrumQC cv (ps.map isDecoy)).1.map some ∧
    (spectrumQPsm cv ps).2 = (spectrumQC cv (ps.map isDecoy)).2 := by
  obtain ⟨h1, _, h3⟩ := bwdPsm_q (fwdPsm cv 1 0 ps)
  rw [fwdPsm_q] at h1 h3
  exact ⟨h1, h3⟩

theorem fwdPsm_frame {α : Type} (cv : Nat → Nat) (d t : Nat) (ps : List (Psm α)) :
    (fwdPsm cv d t ps).map (fun p => (p.label, p.rest)) = ps.map (fun p => (p.label, p.rest)) := by
  induction ps generalizing d t with
  | nil => rfl
  | cons p ps ih => simp only [fwdPsm, List.map_cons, ih]

theorem bwdPsm_frame {α : Type} (ps : List (Psm α)) :
    (bwdPsm ps).1.map (fun p => (p.label, p.rest)) = ps.map (fun p => (p.label, p.rest)) := by
  induction ps with
  | nil => rfl
  | cons p ps ih => simp only [bwdPsm, List.map_cons, ih]

/-- **C12.psm_frame** — the function writes `spectrum_q` and nothing else -/
theorem psm_frame {α : Type} (cv : Nat → Nat) (ps : List (Psm α)) :
    (spectrumQPsm cv ps).1.map (fun p => (p.label, p.rest)) = ps.map (fun p => (p.label, p.rest)) :=
  (bwdPsm_frame _).trans (fwdPsm_frame cv 1 0 ps)

/-- **C12.q_label_only** — invariance under any change of the non-label fields: two PSM lists
    (even with different kinds of other fields, different stale `spectrum_q`, and different label
    values as long as the same positions carry −1) get the same q-values and the same count -/
theorem q_label_only {α β : Type} (cv : Nat → Nat) (ps : List (Psm α)) (ps' : List (Psm β))
    (h : ps.map isDecoy = ps'.map isDecoy) :
    (spectrumQPsm cv ps).1.map (·.spectrumQ) = (spectrumQPsm cv ps').1.map (·.spectrumQ) ∧
    (spectrumQPsm cv ps).2 = (spectrumQPsm cv ps').2 := by
  rw [(psm_q_eq cv ps).1, (psm_q_eq cv ps').1, (psm_q_eq cv ps).2, (psm_q_eq cv ps').2, h]
  exact ⟨rfl, rfl⟩

/-- non-vacuity: T T D with stale q-values 0.001 / +∞ / 7.5 and ranks/scores as junk, against fresh
    PSMs with unit junk (and label 5 for a target): same result `[1/2, 1/2, 1]`; junk untouched -/
example :
    let ps : List (Psm (Nat × Int)) := [⟨1, some (1/1000), (3, -5)⟩, ⟨1, none, (1, 2)⟩, ⟨-1, some (15/2), (2, 0)⟩]
    let ps' : List (Psm Unit) := [⟨1, some 1, ()⟩, ⟨5, some 1, ()⟩, ⟨-1, some 1, ()⟩]
    (spectrumQPsm id ps).1.map (·.spectrumQ) = [some (1/2), some (1/2), some 1] ∧
    (spectrumQPsm id ps').1.map (·.spectrumQ) = [some (1/2), some (1/2), some 1] ∧
    (spectrumQPsm id ps).1.map (·.rest) = [(3, -5), (1, 2), (2, 0)] := by
  decide +kernel

theorem runMin_eq (m : Rat) (rs : List (Option Rat)) : runMin m rs = (cumminFrom m rs.reverse).reverse := by
  induction rs generalizing m with
  | nil => rfl
  | cons r rs ih => rw [List.reverse_cons, cumminFrom_snoc, List.reverse_append, ← ih]; rfl

/-- **C12.q_eq_cummin** — the model is the classical construction: the step function
    FDR(i) = (Dᵢ + 1)/Tᵢ over the cut-offs, read from the bottom of the list upwards with a running
    minimum that starts at 1 -/
theorem q_eq_cummin (labels : List Bool) : (spectrumQ labels).1 = qClassic labels := by
  rw [qClassic, runMin_eq, List.reverse_reverse, List.reverse_reverse, ← ratios_eq]
  exact spectrumQ_fst labels

example : qClassic [false, false, true, false, true, true] = [1/2, 1/2, 2/3, 2/3, 1, 1] := by
  decide +kernel

/-- **C12.q_suffix_counts** — suffix law: the q-values of the PSMs after a prefix depend on that
    prefix only through its two tallies -/
theorem q_suffix_counts (p s : List Bool) :
    (spectrumQ (p ++ s)).1.drop p.length =
      cummin ((counts (1 + nDecoy p p.length) (nTarget p p.length) s).map ratio) := by
  rw [spectrumQ_fst, counts_append, List.map_append, cumminFrom_append,
    List.drop_left' (by rw [cumminFrom_length, List.length_map, counts_length]), cummin_eq_cumminFrom,
    nDecoy, nTarget, List.take_length, Nat.zero_add]

/-- corollary: two prefixes with the same numbers of decoys and targets (any order) leave the same
    q-values on whatever follows -/
theorem q_suffix_perm (p p' s : List Bool) (hd : nDecoy p p.length = nDecoy p' p'.length)
    (ht : nTarget p p.length = nTarget p' p'.length) :
    (spectrumQ (p ++ s)).1.drop p.length = (spectrumQ (p' ++ s)).1.drop p'.length := by
  rw [q_suffix_counts, q_suffix_counts, hd, ht]

example : (spectrumQ ([true, false, false] ++ [false, true])).1.drop 3 = [2/3, 1]
    ∧ (spectrumQ ([false, false, true] ++ [false, true])).1.drop 3 = [2/3, 1] := by
  decide +kernel

/-- **C12.q_append_le** — prefix law: PSMs appended at the bottom of the list can only lower (never
    raise) the q-values of the PSMs above them -/
theorem q_append_le (l l' : List Bool) (i : Nat) (x y : Rat)
    (hx : (spectrumQ l).1[i]? = some x) (hy : (spectrumQ (l ++ l')).1[i]? = some y) : y ≤ x := by
  rw [spectrumQ_fst] at hx hy
  obtain ⟨hi, rfl⟩ := List.getElem?_eq_some_iff.mp hx
  rw [counts_append, List.map_append, cumminFrom_append,
    List.getElem?_append_left (by rw [cumminFrom_length] at hi ⊢; exact hi)] at hy
  obtain ⟨hi', rfl⟩ := List.getElem?_eq_some_iff.mp hy
  exact (cumminFrom_mono_seed (hdOr_cumminFrom_le 1 _) _).2.get hi' hi

example : (spectrumQ [false, true]).1 = [1, 1] ∧ (spectrumQ ([false, true] ++ [false, false, false])).1.take 2 = [1/2, 1/2] := by
  decide +kernel

theorem counts_snoc (d t : Nat) (l : List Bool) (b : Bool) :
    counts d t (l ++ [b]) = counts d t l ++
      [(d + ((l ++ [b]).filter id).length, t + ((l ++ [b]).filter (fun x => !x)).length)] := by
  rw [counts_append]
  cases b <;> simp [counts, Nat.add_assoc]

theorem minOpt_hdOr_cumminFrom {a : Option Rat} {B : List (Option Rat)} (h : ∀ r ∈ B, leOpt a r) (m : Rat) :
    minOpt (hdOr m (cumminFrom m B)) a = minOpt m a :=
  (cumminFrom_forall (P := fun q => minOpt q a = minOpt m a) rfl fun q hq r hr => by
    rw [minOpt_right_comm, hq, minOpt_absorb (h r hr)]).1

/-- **C12.q_append_decoys** — appending decoys at the bottom of the list changes no earlier q-value -/
theorem q_append_decoys (l : List Bool) (k : Nat) :
    (spectrumQ (l ++ List.replicate k true)).1.take l.length = (spectrumQ l).1 := by
  rw [spectrumQ_fst, spectrumQ_fst, counts_append, List.map_append, cumminFrom_append,
    List.take_left' (by rw [cumminFrom_length, List.length_map, counts_length])]
  -- only what the seed makes of the LAST estimate of `l` matters, and that estimate is below all later ones
  rcases List.eq_nil_or_concat l with rfl | ⟨l0, b, rfl⟩
  · rfl
  · rw [List.concat_eq_append, counts_snoc, List.map_append, List.map_singleton, cumminFrom_snoc,
      cumminFrom_snoc, minOpt_hdOr_cumminFrom]
    rw [counts_replicate_true]
    exact List.forall_mem_map.mpr <| List.forall_mem_map.mpr fun a ha =>
      ratio_mono (Nat.le_of_succ_le (List.mem_range'_1.mp ha).1) (le_refl _)

example : (spectrumQ ([false, false, true, false] ++ List.replicate 3 true)).1 = [1/2, 1/2, 2/3, 2/3, 1, 1, 1]
    ∧ (spectrumQ [false, false, true, false]).1 = [1/2, 1/2, 2/3, 2/3] := by
  decide +kernel

/-- **C12.q_not_suffix_local** — a q-value is NOT a function of the labels from its position on
    (the prefix matters, through its tallies): same suffix `[T]`, different q -/
theorem q_not_suffix_local :
    (spectrumQ ([false] ++ [false])).1.drop 1 ≠ (spectrumQ ([true] ++ [false])).1.drop 1 := by
  decide +kernel

/-- **C12.q_not_prefix_local** — nor of the labels up to its position (later cut-offs can lower it):
    same prefix `[T]`, different q -/
theorem q_not_prefix_local :
    (spectrumQ ([false] ++ [])).1.take 1 ≠ (spectrumQ ([false] ++ [false])).1.take 1 := by
  decide +kernel

theorem sorted_filter_prefix (c : Rat) (l : List Rat) (hs : l.Pairwise (· ≤ ·)) (i : Nat) (q : Rat)
    (h : l[i]? = some q) : q ≤ c ↔ i < (l.filter (fun x => decide (x ≤ c))).length := by
  induction l generalizing i with
  | nil => nomatch h
  | cons x l ih =>
    obtain ⟨hx, hl⟩ := List.pairwise_cons.mp hs
    by_cases hxc : x ≤ c
    · rw [List.filter_cons_of_pos (p := fun y => decide (y ≤ c)) (decide_eq_true hxc), List.length_cons]
      cases i with
      | zero => cases h; exact iff_of_true hxc (Nat.succ_pos _)
      | succ i => exact (ih hl i h).trans Nat.succ_lt_succ_iff.symm
    · -- nothing from `x` on passes
      have hall : ∀ y ∈ x :: l, ¬ y ≤ c := fun y hy hyc =>
        hxc ((List.forall_mem_cons.mpr ⟨le_refl x, hx⟩ y hy).trans hyc)
      rw [List.filter_eq_nil_iff.mpr fun y hy => by simpa using hall y hy]
      exact iff_of_false (hall q (List.mem_of_getElem? h)) (Nat.not_lt_zero i)

/-- **C12.count_prefix** — the PSMs counted by the 1% threshold are exactly the first `count` PSMs:
    a PSM at position `i` has `q ≤ 0.01` iff `i < count` -/
theorem count_prefix (labels : List Bool) (i : Nat) (q : Rat) (h : (spectrumQ labels).1[i]? = some q) :
    q ≤ 1/100 ↔ i < (spectrumQ labels).2 :=
  sorted_filter_prefix (1/100) _ (q_monotone labels) i q h

theorem q_step (labels : List Bool) (i : Nat) (h : i < labels.length) :
    (spectrumQ labels).1[i]? =
      some (minOpt (((spectrumQ labels).1[i + 1]?).getD 1) (fdrAt labels i)) := by
  have hlen : ((counts 1 0 labels).map ratio).length = labels.length := by rw [List.length_map, counts_length]
  have hd : ((counts 1 0 labels).map ratio).drop i =
      fdrAt labels i :: ((counts 1 0 labels).map ratio).drop (i + 1) := by
    rw [ratios_eq, List.drop_eq_getElem_cons (by simpa using h), List.getElem_map, List.getElem_range]
  rw [spectrumQ_fst, cumminFrom_getElem? _ _ i (hlen ▸ h), hd, cumminFrom_getD]
  rfl

/-- **C12.count_last_cutoff** — the count is one plus the position of the LAST cut-off whose FDR
    estimate (decoys+1)/targets is at most 1% (0 if there is none) -/
theorem count_last_cutoff (labels : List Bool) :
    (0 < (spectrumQ labels).2 → ∃ x, fdrAt labels ((spectrumQ labels).2 - 1) = some x ∧ x ≤ 1/100) ∧
    (∀ j x, (spectrumQ labels).2 ≤ j → j < labels.length → fdrAt labels j = some x → ¬ x ≤ 1/100) := by
  -- from position `count` on no q-value, nor the seed 1 after the last one, is ≤ 1%
  have hnext : ∀ i, (spectrumQ labels).2 ≤ i → ¬ ((spectrumQ labels).1[i]?).getD 1 ≤ 1/100 := by
    intro i hi
    cases hn : (spectrumQ labels).1[i]? with
    | none => norm_num
    | some z => exact fun hz => absurd ((count_prefix labels i z hn).mp hz) (Nat.not_lt.mpr hi)
  constructor
  · intro hpos
    have hc : (spectrumQ labels).2 ≤ labels.length := by
      rw [count_eq, ← q_length labels]; exact List.length_filter_le _ _
    have hlt := Nat.sub_one_lt (Nat.ne_of_gt hpos)
    have hs := q_step labels ((spectrumQ labels).2 - 1) (hlt.trans_le hc)
    -- so at `count − 1` the minimum is taken by the estimate
    exact (minOpt_le_iff.mp ((count_prefix labels _ _ hs).mpr hlt)).resolve_left
      (hnext _ (Nat.sub_add_cancel hpos).ge)
  · intro j x hj hjn hf hx
    exact absurd ((count_prefix labels j _ (q_step labels j hjn)).mp (minOpt_le_iff.mpr (.inr ⟨x, hf, hx⟩)))
      (Nat.not_lt.mpr hj)

/-- non-vacuity: 100 targets then a decoy — estimates 1/1 … 1/100, then 2/100: the count is 100, the
    last cut-off with an estimate ≤ 1% plus one (computed through the RLE model and `qRle_exact`) -/
example : (spectrumQ (List.replicate 100 false ++ [true])).2 = 100 := by
  refine (qRle_exact [(false, 100), (true, 1)]).2.symm.trans ?_
  decide +kernel

/-- **C12.q_all_decoys** — an all-decoy list of ANY length: every q-value is the cap `1` (no target, no
finite ratio ever), and the passing count is 0. -/
theorem q_all_decoys (n : Nat) :
    (spectrumQ (List.replicate n true)).1 = List.replicate n 1 ∧ (spectrumQ (List.replicate n true)).2 = 0 := by
  have e : (spectrumQ (List.replicate n true)).1 = List.replicate n 1 := by
    rw [spectrumQ_fst, counts_replicate_true, cumminFrom_const, List.length_map, List.length_map,
      List.length_range']
    exact List.forall_mem_map.mpr <| List.forall_mem_map.mpr fun _ _ => rfl
  refine ⟨e, ?_⟩
  rw [count_eq, e, List.filter_replicate, if_neg (by norm_num)]
  rfl

/-- **C12.q_all_targets** — an all-target list of ANY positive length `n+1`: every q-value is `1/(n+1)`
(the pseudo-count decoy over all targets, attained at the last cut-off). -/
theorem q_all_targets (n : Nat) :
    (spectrumQ (List.replicate (n + 1) false)).1 = List.replicate (n + 1) (1 / ((n + 1 : Nat) : Rat)) := by
  rw [spectrumQ_fst]
  refine (cumminFrom_targets monotone_id 1 1 0 n).trans (congrArg _ ?_)
  have h : (1 : Rat) ≤ (n + 1 : Nat) := Nat.one_le_cast.mpr (Nat.succ_pos n)
  simp only [ratioC, ratio, id, Nat.zero_add, Nat.succ_ne_zero, if_false, Nat.cast_one, minOpt]
  exact min_eq_right ((div_le_one (one_pos.trans_le h)).mpr h)

example : (spectrumQ (List.replicate 4 false)).1 = [1/4, 1/4, 1/4, 1/4] := by
  decide +kernel

end Sage.C12
