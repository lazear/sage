import SageModel.Model.C02
import SageModel.Props.C03
import SageModel.Props.C10
import SageModel.Props.C04
import Mathlib.Order.Defs.LinearOrder
import Mathlib.Data.Prod.Lex
import Mathlib.Data.List.Perm.Basic

/-!
# C02 — Search reports the best-scoring candidates for every spectrum, ranked

Property text: *For every spectrum the reported PSMs are the highest-scoring candidates: no database peptide whose
mass lies inside the precursor window for a searched charge state and isotope offset, that is among the candidates
retained by the preliminary matched-fragment count (top 50, or 2 x report_psms if larger) and reaches
min_matched_peaks, is left out while a lower-scoring one is reported or a report slot stays empty. Reported ranks run
1..k without gaps in non-increasing hyperscore order with k <= report_psms, delta_next and delta_best are
non-negative, and every reported peptide lies inside the precursor window at its reported charge and isotope offset
with the label of its database entry. In chimeric mode the same holds for each successive PSM on the spectrum left
after removing the peaks matched by the previous ones.*

All theorems are about the model in `Model/C02.lean`, for every database, spectrum and configuration (no size bound).
The ranking theorems are stated for an ARBITRARY hyperscore type `β` with a comparison `tle` that is a total preorder
and a subtraction that maps `y ≤ x` to `0 ≤ x − y` — nothing else is assumed, so they hold for IEEE `f64` on
NaN-free scores (`total_cmp`, correctly rounded subtraction) as well as for `ℚ`/`ℤ` — and for an ARBITRARY scorer.
The candidate theorems are stated for an arbitrary `LinearOrder` on masses and an arbitrary arithmetic record `Env`
(the window edges are whatever `Tolerance::bounds` yields; rounding is not modelled).

`delta_next ≥ 0` fails for the last element of the score vector when its hyperscore is negative:
`delta_next_last_negative` is the proved counterexample, a known unrepaired defect.

Not proved: the full scorer (`score_candidate` is C04's subject; the ranking theorems hold for every scorer), IEEE
rounding, and lawfulness of `f32 ==` (NaN-free data) in `removeMatched_spec`.
-/

namespace Sage.C02

open Sage.C03 (Tol Frag Q)
open Sage.C04 (Env Peak)

-- Instance-search shortcut. At every mention of a model function (`[LT α] [DecidableLT α] [LE α] [DecidableLE α]`) under
-- `[LinearOrder α]` the search for `PartialOrder α` ends on this path after a long detour; tried first, it gives the same terms.
attribute [local instance 1100] SemilatticeInf.toPartialOrder Lattice.toSemilatticeInf DistribLattice.toLattice
  instDistribLatticeOfLinearOrder

section rank
variable {β : Type} (tle : β → β → Bool)

structure TotalPre (tle : β → β → Bool) : Prop where
  total : ∀ x y, tle x y = true ∨ tle y x = true
  trans : ∀ x y z, tle x y = true → tle y z = true → tle x z = true

def Desc (l : List (Cand β)) : Prop := l.Pairwise (fun a b => tle b.hs a.hs = true)

theorem TotalPre.refl {tle : β → β → Bool} (h : TotalPre tle) (x : β) : tle x x = true :=
  (h.total x x).elim id id

theorem insertDesc_perm (x : Cand β) (l : List (Cand β)) : (insertDesc tle x l).Perm (x :: l) := by
  induction l with
  | nil => exact List.Perm.refl _
  | cons y ys ih =>
    unfold insertDesc
    split
    · exact List.Perm.refl _
    · exact (List.Perm.cons y ih).trans (List.Perm.swap x y ys)

theorem sortDesc_perm (l : List (Cand β)) : (sortDesc tle l).Perm l := by
  induction l with
  | nil => exact List.Perm.refl _
  | cons x xs ih =>
    exact (insertDesc_perm tle x _).trans (List.Perm.cons x ih)

theorem insertDesc_desc (h : TotalPre tle) (x : Cand β) (l : List (Cand β)) (hl : Desc tle l) :
    Desc tle (insertDesc tle x l) := by
  induction l with
  | nil => exact List.pairwise_singleton _ _
  | cons y ys ih =>
    obtain ⟨hy, hys⟩ := List.pairwise_cons.mp hl
    unfold insertDesc
    split
    · rename_i hyx
      refine List.pairwise_cons.mpr ⟨fun b hb => ?_, hl⟩
      rcases List.mem_cons.mp hb with rfl | hb
      · exact hyx
      · exact h.trans _ _ _ (hy b hb) hyx
    · rename_i hyx
      refine List.pairwise_cons.mpr ⟨fun b hb => ?_, ih hys⟩
      rcases List.mem_cons.mp ((insertDesc_perm tle x ys).mem_iff.mp hb) with rfl | hb
      · exact (h.total y.hs b.hs).resolve_left hyx
      · exact hy b hb

theorem sortDesc_desc (h : TotalPre tle) (l : List (Cand β)) : Desc tle (sortDesc tle l) := by
  induction l with
  | nil => exact List.Pairwise.nil
  | cons x xs ih => exact insertDesc_desc tle h x _ ih

theorem scoreVector_desc (h : TotalPre tle) {score : PreScore → Cand β} {m : Nat} {prelim : List PreScore} :
    Desc tle (scoreVector tle score m prelim) := sortDesc_desc tle h _

theorem desc_getElem (htle : TotalPre tle) {l : List (Cand β)} (hl : Desc tle l) {i j : Nat} {c d : Cand β}
    (hij : i ≤ j) (hc : l[i]? = some c) (hd : l[j]? = some d) : tle d.hs c.hs = true := by
  rcases Nat.lt_or_eq_of_le hij with hij | rfl
  · obtain ⟨hi, rfl⟩ := List.getElem?_eq_some_iff.mp hc
    obtain ⟨hj, rfl⟩ := List.getElem?_eq_some_iff.mp hd
    exact List.pairwise_iff_getElem.mp hl i j hi hj hij
  · cases hc.symm.trans hd
    exact htle.refl _

theorem mem_scoreVector (score : PreScore → Cand β) (m : Nat) (prelim : List PreScore) (c : Cand β) :
    c ∈ scoreVector tle score m prelim ↔ ∃ p ∈ prelim, 0 < p.matched ∧ c = score p ∧ m ≤ c.matched := by
  unfold scoreVector
  rw [(sortDesc_perm tle _).mem_iff]
  simp only [List.mem_filter, List.mem_map, decide_eq_true_eq, gt_iff_lt, ge_iff_le]
  constructor
  · rintro ⟨⟨p, ⟨hp, hm⟩, rfl⟩, hc⟩
    exact ⟨p, hp, hm, rfl, hc⟩
  · rintro ⟨p, hp, hm, rfl, hc⟩
    exact ⟨⟨p, ⟨hp, hm⟩, rfl⟩, hc⟩

variable (sub : β → β → β) (zero : β)

/-- the feature pushed for score-vector position `i` -/
def mkPsm (sv : List (Cand β)) (c : Cand β) (i : Nat) : Psm β :=
  { pep := c.pre.peptide, charge := c.pre.charge, iso := c.pre.iso, rank := i + 1, matched := c.matched, hs := c.hs,
    dnext := sub c.hs (match sv[i + 1]? with | some n => n.hs | none => zero),
    dbest := sub (match sv with | [] => zero | c :: _ => c.hs) c.hs }

theorem reportFrom_getElem? (sv : List (Cand β)) (r i : Nat) :
    (reportFrom sub zero sv r)[i]? = if i < r then (sv[i]?).map (fun c => mkPsm sub zero sv c i) else none := by
  unfold reportFrom
  rw [List.getElem?_map, List.getElem?_zipIdx, List.getElem?_take, Nat.zero_add]
  by_cases h : i < r
  · rw [if_pos h, if_pos h]
    cases sv[i]? <;> rfl
  · rw [if_neg h, if_neg h]
    rfl

theorem reportFrom_inv {sv : List (Cand β)} {r i : Nat} {p : Psm β} (h : (reportFrom sub zero sv r)[i]? = some p) :
    i < r ∧ ∃ c, sv[i]? = some c ∧ mkPsm sub zero sv c i = p := by
  rw [reportFrom_getElem?] at h
  split at h
  · exact ⟨‹_›, Option.map_eq_some_iff.mp h⟩
  · cases h

theorem reportFrom_length (sv : List (Cand β)) (r : Nat) : (reportFrom sub zero sv r).length = min r sv.length := by
  unfold reportFrom
  rw [List.length_map, List.length_zipIdx, List.length_take]

theorem mem_buildFeatures {score : PreScore → Cand β} {minMatched r : Nat} {prelim : List PreScore} {p : Psm β}
    (hp : p ∈ buildFeatures tle sub zero score minMatched r prelim) :
    ∃ c ∈ prelim, 0 < c.matched ∧ minMatched ≤ (score c).matched ∧
      p.pep = (score c).pre.peptide ∧ p.charge = (score c).pre.charge ∧ p.iso = (score c).pre.iso ∧
      p.hs = (score c).hs ∧ p.matched = (score c).matched := by
  obtain ⟨i, hi⟩ := List.mem_iff_getElem?.mp hp
  obtain ⟨_, c, hc, rfl⟩ := reportFrom_inv sub zero hi
  obtain ⟨q, hq, hm, rfl, hmin⟩ := (mem_scoreVector tle score minMatched prelim c).mp (List.mem_of_getElem? hc)
  exact ⟨q, hq, hm, hmin, rfl, rfl, rfl, rfl, rfl⟩

/-- The ranking part of `build_features`, for every scorer, preliminary list, `min_matched_peaks` and `report_psms`:
    `k = min report_psms (candidates reaching min_matched_peaks)`; position `i` has rank `i + 1`; hyperscores are
    non-increasing; `delta_best ≥ 0`; `delta_next ≥ 0` for every PSM that is not the last element of the sorted score
    vector, and for the last one provided its hyperscore is `≥ 0` (see `delta_next_last_negative`); every PSM is
    `score p` for a preliminary entry `p` with `matched > 0`. -/
theorem report_spec (htle : TotalPre tle) (hsub : ∀ x y, tle y x = true → tle zero (sub x y) = true)
    (score : PreScore → Cand β) (minMatched r : Nat) (prelim : List PreScore) :
    let sv := scoreVector tle score minMatched prelim
    let out := buildFeatures tle sub zero score minMatched r prelim
    out.length = min r sv.length ∧ out.length ≤ r ∧
    (∀ (i : Nat) (p : Psm β), out[i]? = some p → p.rank = i + 1) ∧
    (∀ (i j : Nat) (p q : Psm β), i < j → out[i]? = some p → out[j]? = some q → tle q.hs p.hs = true) ∧
    (∀ (i : Nat) (p : Psm β), out[i]? = some p → tle zero p.dbest = true) ∧
    (∀ (i : Nat) (p : Psm β), out[i]? = some p → i + 1 < sv.length → tle zero p.dnext = true) ∧
    (∀ (i : Nat) (p : Psm β), out[i]? = some p → tle zero p.hs = true → tle zero p.dnext = true) ∧
    (∀ (i : Nat) (p : Psm β), out[i]? = some p → ∃ c ∈ prelim, 0 < c.matched ∧ minMatched ≤ (score c).matched ∧
        p.pep = (score c).pre.peptide ∧ p.charge = (score c).pre.charge ∧ p.iso = (score c).pre.iso ∧
        p.hs = (score c).hs ∧ p.matched = (score c).matched) := by
  intro sv out
  have hget : ∀ {i p}, out[i]? = some p → i < r ∧ ∃ c, sv[i]? = some c ∧ mkPsm sub zero sv c i = p :=
    reportFrom_inv sub zero
  have hord := @desc_getElem _ tle htle sv (scoreVector_desc tle htle)
  have hlen := reportFrom_length sub zero sv r
  have hnext : ∀ {i p}, out[i]? = some p → (sv[i + 1]? = none → tle zero p.hs = true) → tle zero p.dnext = true := by
    intro i p h hlast
    obtain ⟨_, c, hc, rfl⟩ := hget h
    apply hsub
    cases hn : sv[i + 1]? with
    | none => exact hlast hn
    | some n => exact hord (Nat.le_succ i) hc hn
  refine ⟨hlen, hlen ▸ Nat.min_le_left _ _, ?_, ?_, ?_, ?_, ?_, ?_⟩
  · intro i p h
    obtain ⟨_, c, _, rfl⟩ := hget h
    rfl
  · intro i j p q hij hp hq
    obtain ⟨_, c, hc, rfl⟩ := hget hp
    obtain ⟨_, d, hd, rfl⟩ := hget hq
    exact hord (Nat.le_of_lt hij) hc hd
  · intro i p h
    obtain ⟨_, c, hc, rfl⟩ := hget h
    apply hsub
    cases hsv : sv with
    | nil => rw [hsv] at hc; cases hc
    | cons b rest => exact hord (Nat.zero_le i) (by rw [hsv]; rfl) hc
  · exact fun i p h hi => hnext h fun hn => absurd hi (Nat.not_lt.mpr (List.getElem?_eq_none_iff.mp hn))
  · exact fun i p h hpos => hnext h fun _ => hpos
  · intro i p h
    exact mem_buildFeatures tle sub zero (List.mem_of_getElem? h)

/-- `build_features`: a retained candidate (`matched > 0`) whose full score reaches `min_matched_peaks` is either
    reported, or the report is full (`k = report_psms`) and every reported PSM scores at least as high. -/
theorem no_better_left_out (htle : TotalPre tle) (score : PreScore → Cand β) (minMatched r : Nat)
    (prelim : List PreScore) :
    let out := buildFeatures tle sub zero score minMatched r prelim
    ∀ c ∈ prelim, 0 < c.matched → minMatched ≤ (score c).matched →
      (∃ (i : Nat) (p : Psm β), out[i]? = some p ∧ p.hs = (score c).hs ∧ p.pep = (score c).pre.peptide ∧
          p.charge = (score c).pre.charge ∧ p.iso = (score c).pre.iso) ∨
      (out.length = r ∧ ∀ (i : Nat) (p : Psm β), out[i]? = some p → tle (score c).hs p.hs = true) := by
  intro out c hc hm hmin
  obtain ⟨j, hj⟩ := List.mem_iff_getElem?.mp
    ((mem_scoreVector tle score minMatched prelim (score c)).mpr ⟨c, hc, hm, rfl, hmin⟩)
  by_cases hjr : j < r
  · refine Or.inl ⟨j, mkPsm sub zero (scoreVector tle score minMatched prelim) (score c) j, ?_, rfl, rfl, rfl, rfl⟩
    show (reportFrom sub zero _ r)[j]? = _
    rw [reportFrom_getElem?, if_pos hjr, hj]
    rfl
  · have hlen := (List.getElem?_eq_some_iff.mp hj).1
    refine Or.inr ⟨?_, fun i p hp => ?_⟩
    · exact (reportFrom_length sub zero _ r).trans
        (Nat.min_eq_left (Nat.le_trans (Nat.le_of_not_lt hjr) (Nat.le_of_lt hlen)))
    · obtain ⟨hir, d, hd, rfl⟩ := reportFrom_inv sub zero hp
      exact desc_getElem tle htle (scoreVector_desc tle htle)
        (Nat.le_of_lt (Nat.lt_of_lt_of_le hir (Nat.le_of_not_lt hjr))) hd hj

end rank

def exScore (p : PreScore) : Cand Int := { pre := p, matched := p.matched, hs := 10 * (p.matched : Int) - p.peptide - 25 }
def exPrelim : List PreScore :=
  [{ matched := 3, peptide := 0, charge := 2 }, { matched := 0, peptide := 0 }, { matched := 5, peptide := 7, charge := 2 },
   { matched := 1, peptide := 4, charge := 2 }, { matched := 5, peptide := 2, charge := 3 }, { matched := 2, peptide := 9, charge := 2 }]

theorem totalPre_int : TotalPre (fun (x y : Int) => decide (x ≤ y)) :=
  ⟨fun x y => by simp only [decide_eq_true_eq]; exact Int.le_total x y,
   fun x y z => by simp only [decide_eq_true_eq]; exact Int.le_trans⟩

/-- non-vacuity of `report_spec`: 4 candidates reach `min_matched_peaks = 2`, 3 are reported; the entry with
    `matched = 0` and the one below `min_matched_peaks` are not scored -/
example : (buildFeatures (fun (x y : Int) => decide (x ≤ y)) (· - ·) 0 exScore 2 3 exPrelim).map
    (fun p => (p.pep, p.rank, p.hs, p.dnext, p.dbest)) = [(2, 1, 23, 5, 0), (7, 2, 18, 13, 5), (0, 3, 5, 19, 18)] := by decide +kernel

/-- "`delta_next ≥ 0` for every reported PSM" is false of the code: for the last element of the score vector
    `delta_next = hyperscore − 0`, negative when the hyperscore is (`lnfact 1 < 0`: one b and one y peak of low
    intensity). Known, unrepaired defect; the real code is run on this case by the `negative-hyperscore` stream. -/
theorem delta_next_last_negative :
    ∃ (score : PreScore → Cand Int) (prelim : List PreScore) (p : Psm Int),
      buildFeatures (fun (x y : Int) => decide (x ≤ y)) (· - ·) 0 score 1 1 prelim = [p] ∧ p.dnext < 0 :=
  ⟨exScore, [{ matched := 2, peptide := 9, charge := 2 }],
    { pep := 9, charge := 2, iso := 0, rank := 1, matched := 2, hs := -14, dnext := -14, dbest := 0 }, by rfl, by decide⟩

/-- non-vacuity of `no_better_left_out`: the fourth candidate (hyperscore −14) is left out of a full report -/
example : (buildFeatures (fun (x y : Int) => decide (x ≤ y)) (· - ·) 0 exScore 2 3 exPrelim).length = 3 ∧
    (exScore { matched := 2, peptide := 9, charge := 2 }).hs = -14 ∧
    ((buildFeatures (fun (x y : Int) => decide (x ≤ y)) (· - ·) 0 exScore 2 3 exPrelim).all fun p => decide (-14 ≤ p.hs)) = true := by
  decide +kernel

/-- what the loop body of `matched_peaks_with_isotope` makes of the slot `sc` of peptide `p` -/
def hit (z : Nat) (e : Int) (p : Nat) (sc : PreScore) : PreScore :=
  if sc.matched = 0 then { matched := 1, peptide := p, charge := z, iso := e } else { sc with matched := sc.matched + 1 }

theorem bump_of_slot {lo z : Nat} {e : Int} {h : Hits} {p : Nat} {sc : PreScore} (h1 : lo ≤ p)
    (hsc : h.prelim[p - lo]? = some sc) :
    bump lo z e h p = { matchedPeaks := h.matchedPeaks + 1, scored := h.scored + if sc.matched = 0 then 1 else 0,
                        prelim := h.prelim.setIfInBounds (p - lo) (hit z e p sc) } := by
  unfold bump hit
  rw [if_pos h1, hsc]
  by_cases hm : sc.matched = 0 <;> simp only [hm, if_true, if_false, Nat.add_zero]

/-- a hit outside the vector changes nothing (in the real code: a panic; `candidates_exact` shows it never happens) -/
theorem bump_of_not {lo z : Nat} {e : Int} {h : Hits} {p : Nat} (hn : lo ≤ p → h.prelim[p - lo]? = none) :
    bump lo z e h p = h := by
  unfold bump
  split
  · rw [hn ‹_›]
  · rfl

def slot (z : Nat) (e : Int) (q c : Nat) : PreScore :=
  if c = 0 then default else { matched := c, peptide := q, charge := z, iso := e }

theorem hit_slot (z : Nat) (e : Int) (q c : Nat) : hit z e q (slot z e q c) = slot z e q (c + 1) := by
  cases c <;> rfl

theorem slot_spec (z : Nat) (e : Int) (q c : Nat) :
    (slot z e q c).matched = c ∧ ((slot z e q c).matched = 0 → slot z e q c = default) ∧
    (0 < (slot z e q c).matched → (slot z e q c).peptide = q ∧ (slot z e q c).charge = z ∧ (slot z e q c).iso = e) := by
  cases c with
  | zero => exact ⟨rfl, fun _ => rfl, fun h => absurd h (Nat.lt_irrefl 0)⟩
  | succ c => exact ⟨rfl, fun h => absurd h (Nat.succ_ne_zero c), fun _ => ⟨rfl, rfl, rfl⟩⟩

/-- the dense vector after the hits `done`, in closed form: slot `i` has seen `done.count (lo + i)` hits -/
structure BumpInv (lo z : Nat) (e : Int) (n : Nat) (done : List Nat) (h : Hits) : Prop where
  size : h.prelim.size = n
  mp : h.matchedPeaks = done.length
  slot : ∀ i, i < n → h.prelim[i]? = some (slot z e (lo + i) (done.count (lo + i)))

theorem bumpInv_init (lo z : Nat) (e : Int) (n : Nat) :
    BumpInv lo z e n [] { matchedPeaks := 0, scored := 0, prelim := Array.replicate n default } :=
  ⟨Array.size_replicate, rfl, fun i hi => by rw [Array.getElem?_replicate, if_pos hi]; rfl⟩

theorem bumpInv_step {lo z : Nat} {e : Int} {n : Nat} {done : List Nat} {h : Hits} {p : Nat}
    (inv : BumpInv lo z e n done h) (h1 : lo ≤ p) (h2 : p - lo < n) :
    BumpInv lo z e n (done ++ [p]) (bump lo z e h p) := by
  have hp := Nat.add_sub_cancel' h1
  have hsc := inv.slot (p - lo) h2
  rw [hp] at hsc
  rw [bump_of_slot h1 hsc]
  refine ⟨by rw [Array.size_setIfInBounds, inv.size], by rw [List.length_append, inv.mp]; rfl, fun i hi => ?_⟩
  rw [Array.getElem?_setIfInBounds, List.count_append, List.count_singleton]
  by_cases hip : p - lo = i
  · rw [if_pos hip, if_pos (inv.size ▸ h2), hit_slot, ← hip, hp, beq_self_eq_true, if_pos rfl]
  · have hne : (p == lo + i) = false := beq_false_of_ne fun he => hip (by rw [he, Nat.add_sub_cancel_left])
    rw [if_neg hip, inv.slot i hi, hne]
    rfl

theorem bumpInv_fold {lo z : Nat} {e : Int} {n : Nat} : ∀ (L : List Nat) {done : List Nat} {h : Hits},
    BumpInv lo z e n done h → (∀ p ∈ L, lo ≤ p ∧ p - lo < n) →
    BumpInv lo z e n (done ++ L) (L.foldl (bump lo z e) h)
  | [], _, _, inv, _ => by rwa [List.append_nil]
  | p :: ps, done, _, inv, hL => by
    have hp := hL p List.mem_cons_self
    have := bumpInv_fold ps (bumpInv_step inv hp.1 hp.2) fun q hq => hL q (List.mem_cons_of_mem _ hq)
    rwa [List.append_assoc] at this

def PreScore.pos (p : PreScore) : Bool := decide (0 < p.matched)

theorem bump_scored (lo z : Nat) (e : Int) (h : Hits) (p : Nat) (hs : h.scored = h.prelim.toList.countP PreScore.pos) :
    (bump lo z e h p).scored = (bump lo z e h p).prelim.toList.countP PreScore.pos := by
  by_cases hin : lo ≤ p ∧ ∃ sc, h.prelim[p - lo]? = some sc
  · obtain ⟨h1, sc, hsc⟩ := hin
    obtain ⟨hlt, rfl⟩ := List.getElem?_eq_some_iff.mp ((Array.getElem?_toList ..).trans hsc)
    have hle := List.boole_getElem_le_countP (p := PreScore.pos) hlt
    have hhit : PreScore.pos (hit z e p h.prelim.toList[p - lo]) = true := by
      unfold hit PreScore.pos
      split <;> exact decide_eq_true (Nat.succ_pos _)
    rw [bump_of_slot h1 hsc, Array.toList_setIfInBounds, List.countP_set hlt, hhit, if_pos rfl, ← hs]
    rw [← hs] at hle
    show h.scored + _ = _
    unfold PreScore.pos at hle ⊢
    by_cases hm : h.prelim.toList[p - lo].matched = 0
    · rw [if_pos hm, hm]
      rfl
    · rw [if_pos (decide_eq_true (Nat.pos_of_ne_zero hm))] at hle ⊢
      rw [if_neg hm, Nat.sub_add_cancel hle]
      rfl
  · rw [bump_of_not fun h1 => Option.eq_none_iff_forall_ne_some.mpr fun sc hsc => hin ⟨h1, sc, hsc⟩]
    exact hs

section exact
variable {α β : Type} [LinearOrder α]

/-- the stored fragments inside the four-edged window, by linear scan, over the whole double loop -/
def scanHits (E : Env α β) (db : Db α) (ptol ftol : Tol α) (qm : α) (peaks : List (Peak α)) (mfc : Nat) : List (Frag α) :=
  (peakCharges peaks mfc).flatMap fun pc =>
    Sage.C03.scan db.masses db.frags (qwin E ptol ftol qm pc.1 pc.2)

/-- The preliminary pass of `matched_peaks_with_isotope` before trimming, for every database satisfying C03's index
    invariant `DbInv` (what `build_from_peptides` establishes). `hits` is the linear scan of all stored fragments over
    all (peak, fragment charge) pairs, equal to `page_search` by `pageSearchC_exact`. The dense vector has
    `pre_idx_hi − pre_idx_lo + 1` slots; every hit lands inside it (`pep − pre_idx_lo` neither underflows nor is out of
    bounds: no panic) with its peptide's mass in the precursor window; slot `i` counts exactly the hits of peptide
    `pre_idx_lo + i`, is `PreScore::default()` at count 0 and otherwise carries that peptide, the searched charge and
    isotope error. -/
theorem candidates_exact (E : Env α β) (db : Db α) (inv : Sage.C03.DbInv db.masses db.minv db.frags db.B)
    (ftol ptol : Tol α) (mfcCfg : Option Nat) (peaks : List (Peak α)) (pm : α) (z : Nat) (e : Int) :
    let qm := queryMass E pm e
    let pb := Sage.C04.tolBounds E ptol qm
    let pre := Sage.C03.binarySearchSlice db.masses pb.1 pb.2
    let hits := scanHits E db ptol ftol qm peaks (Sage.C04.maxFragmentCharge mfcCfg z)
    let h := mpwiRaw E db ftol mfcCfg peaks pm z ptol e
    h.prelim.size = pre.2 - pre.1 + 1 ∧ h.matchedPeaks = hits.length ∧
    (∀ f ∈ hits, pre.1 ≤ f.pep ∧ f.pep - pre.1 < h.prelim.size ∧
        ∃ m, db.masses[f.pep]? = some m ∧ pb.1 ≤ m ∧ m ≤ pb.2) ∧
    (∀ i, i < h.prelim.size → ∃ sc, h.prelim[i]? = some sc ∧
        sc.matched = (hits.map (·.pep)).count (pre.1 + i) ∧ (sc.matched = 0 → sc = default) ∧
        (0 < sc.matched → sc.peptide = pre.1 + i ∧ sc.charge = z ∧ sc.iso = e)) := by
  intro qm pb pre hits h
  have hwin : ∀ f ∈ hits, pre.1 ≤ f.pep ∧ f.pep - pre.1 < pre.2 - pre.1 + 1 ∧
      ∃ m, db.masses[f.pep]? = some m ∧ pb.1 ≤ m ∧ m ≤ pb.2 := by
    intro f hf
    obtain ⟨pc, _, hf⟩ := List.mem_flatMap.mp hf
    obtain ⟨_, m, hm, h1, h2⟩ := (Sage.C03.inWin_iff ..).mp (List.mem_filter.mp hf).2
    obtain ⟨h3, h4⟩ : pre.1 ≤ f.pep ∧ f.pep < pre.2 :=
      Sage.C03.bssWith_covers _ Sage.C03.binSearch_ok _ inv.massesSorted _ _ _ m hm h1 h2
    exact ⟨h3, Nat.lt_succ_of_le (Nat.sub_le_sub_right (Nat.le_of_lt h4) _), m, hm, h1, h2⟩
  have hfold : h = ((hits.map (·.pep)).foldl (bump pre.1 z e)
      { matchedPeaks := 0, scored := 0, prelim := Array.replicate (pre.2 - pre.1 + 1) default }) := by
    show mpwiRaw E db ftol mfcCfg peaks pm z ptol e = _
    unfold mpwiRaw hitPeps
    simp only [Sage.C03.pageSearchC_exact _ _ _ _ inv, ← List.map_flatMap]
    rfl
  have hinv := bumpInv_fold (hits.map (·.pep)) (bumpInv_init pre.1 z e (pre.2 - pre.1 + 1)) fun p hp => by
    obtain ⟨f, hf, rfl⟩ := List.mem_map.mp hp
    exact ⟨(hwin f hf).1, (hwin f hf).2.1⟩
  rw [← hfold, List.nil_append] at hinv
  refine ⟨hinv.size, hinv.mp.trans (List.length_map _), ?_, ?_⟩
  · intro f hf
    rw [hinv.size]
    exact hwin f hf
  · intro i hi
    rw [hinv.size] at hi
    exact ⟨_, hinv.slot i hi, slot_spec z e _ _⟩

end exact

/-- a toy arithmetic over `ℕ` for the examples (every field is total; `neg` is unused at isotope error 0) -/
def exEnv : Env Nat Nat :=
  { add := (· + ·), sub := (· - ·), mul := (· * ·), div := (· / ·), abs := id, neg := id, ofNat := id, proton := 1,
    neutron := 1, cast := id, addD := (· + ·), subD := (· - ·), mulD := (· * ·), divD := (· / ·), negD := id,
    ofNatD := id, half := 0, pi := 3, tiny := 0, ln := id, exp := id, log10 := id, ln1p := id,
    isFinite := fun _ => true, isInf := fun _ => false }
/-- C03's 11-fragment, 3-bucket example index over 4 peptides (masses 100, 100, 105, 110) -/
def exDb : Db Nat := { masses := Sage.C03.exMasses, minv := Sage.C03.exMinv, frags := Sage.C03.exFrags, B := 4 }
example : Sage.C03.DbInv exDb.masses exDb.minv exDb.frags exDb.B := Sage.C03.dbInvOk_sound _ _ _ _ (by decide +kernel)
/-- peaks at 20 and 30, precursor window [100, 105] (peptides 0, 1, 2; peptide 3 of mass 110 is outside although its
    fragments 20 and 30 match): counts 2, 1, 1, and the fourth slot (peptide 3) stays `default` -/
example : (mpwiRaw exEnv exDb (.da 0 0) none [⟨20, 1⟩, ⟨30, 1⟩] 100 2 (.da 0 5) 0).prelim.toList =
    [⟨2, 0, 2, 0⟩, ⟨1, 1, 2, 0⟩, ⟨1, 2, 2, 0⟩, ⟨0, 0, 0, 0⟩] ∧
    (mpwiRaw exEnv exDb (.da 0 0) none [⟨20, 1⟩, ⟨30, 1⟩] 100 2 (.da 0 5) 0).matchedPeaks = 4 := by decide +kernel

/-- a complete toy search over `ℕ` on C03's example index: precursor m/z 51 at charge 2 (mass 100), precursor window
    [100, 105], peaks at 20 and 30, every peptide's b-series = its stored fragments -/
def exCfg : Cfg Nat :=
  { ptol := .da 0 5, ftol := .da 0 0, minMatched := 1, isoLo := 0, isoHi := 0, zLo := 2, zHi := 3, overrideCharge := false,
    mfc := none, chimera := false, reportPsms := 2, wideWindow := false, defaultIsoWin := .da 0 0 }
def exInfo : PepInfo Nat :=
  { series := fun i => [(.b, [[20, 30], [10, 30, 40], [30, 40, 60], [20, 30, 50]].getD i [])], len := fun _ => 4 }
def exPeaks : List (Peak Nat) := [⟨20, 1⟩, ⟨30, 1⟩]
def exPrec : Precursor Nat := { mz := 51, charge := some 2, isoWin := none }
theorem exInitialHits : (initialHits exEnv exDb exCfg exPeaks exPrec).prelim.toList =
    [⟨2, 0, 2, 0⟩, ⟨1, 1, 2, 0⟩, ⟨1, 2, 2, 0⟩, ⟨0, 0, 0, 0⟩] ∧ (initialHits exEnv exDb exCfg exPeaks exPrec).scored = 3 := by
  decide +kernel
example : (initialHits exEnv exDb exCfg exPeaks exPrec).prelim.toList =
    [⟨2, 0, 2, 0⟩, ⟨1, 1, 2, 0⟩, ⟨1, 2, 2, 0⟩, ⟨0, 0, 0, 0⟩] ∧ (initialHits exEnv exDb exCfg exPeaks exPrec).scored = 3 := exInitialHits
/-- the hypotheses of `reported_in_window` are met (the scorer copies `pre`) and the report is non-empty -/
example : ((buildFeatures (fun (x y : Int) => decide (x ≤ y)) (· - ·) 0
      (fun c => ({ pre := c, matched := c.matched, hs := 10 * (c.matched : Int) - c.peptide } : Cand Int))
      exCfg.minMatched exCfg.reportPsms (initialHits exEnv exDb exCfg exPeaks exPrec).prelim.toList).map
        fun p => (p.pep, p.charge, p.rank, p.hs)) = [(0, 2, 1, 20), (1, 2, 2, 9)] := by
  rw [exInitialHits.1]
  decide +kernel

instance : LinearOrder PreScore :=
  LinearOrder.lift' (fun p => toLex (p.matched, toLex (p.peptide, toLex (p.charge, p.iso)))) (by
    intro a b h
    cases a; cases b
    simp only [EmbeddingLike.apply_eq_iff_eq, Prod.mk.injEq] at h
    obtain ⟨h1, h2, h3, h4⟩ := h
    subst h1 h2 h3 h4; rfl)

theorem PreScore.lt_iff' (a b : PreScore) :
    a < b ↔ a.matched < b.matched ∨ (a.matched = b.matched ∧ (a.peptide < b.peptide ∨ (a.peptide = b.peptide ∧
      (a.charge < b.charge ∨ (a.charge = b.charge ∧ a.iso < b.iso))))) := by
  show toLex (a.matched, toLex (a.peptide, toLex (a.charge, a.iso))) <
       toLex (b.matched, toLex (b.peptide, toLex (b.charge, b.iso))) ↔ _
  simp only [Prod.Lex.toLex_lt_toLex]

theorem PreScore.lt_eq (a b : PreScore) : PreScore.lt a b = decide (a < b) := by
  rw [Bool.eq_iff_iff]
  simp only [PreScore.lt, Bool.or_eq_true, Bool.and_eq_true, decide_eq_true_eq, PreScore.lt_iff']

theorem PreScore.matched_le_of_le {a b : PreScore} (h : a ≤ b) : a.matched ≤ b.matched := by
  rcases lt_or_eq_of_le h with h | h
  · rcases (PreScore.lt_iff' a b).mp h with h | h
    · exact Nat.le_of_lt h
    · exact Nat.le_of_eq h.1
  · subst h; exact Nat.le_refl _

theorem clamp_eq {x lo hi : Nat} (h : lo ≤ hi) : clamp x lo hi = min hi (max lo x) := by
  unfold clamp
  split
  · rename_i h1
    rw [Nat.max_eq_left (Nat.le_of_lt h1), Nat.min_eq_right h]
  · rename_i h1
    rw [Nat.max_eq_right (Nat.le_of_not_lt h1)]
    split
    · rename_i h2
      exact (Nat.min_eq_left (Nat.le_of_lt h2)).symm
    · rename_i h2
      exact (Nat.min_eq_right (Nat.le_of_not_lt h2)).symm

/-- `trim_hits` keeps `50.clamp(min(2r, len), len) = min len (max 50 (2·report_psms))` entries; the `clamp` is always
    called with `min ≤ max` (no panic). -/
theorem trim_k (r len : Nat) : trimK r len = min len (max 50 (2 * r)) ∧ min (r * 2) len ≤ len := by
  refine ⟨?_, Nat.min_le_right _ _⟩
  unfold trimK TRIM
  rw [clamp_eq (Nat.min_le_right _ _), Nat.max_comm, Nat.max_min_distrib_left, Nat.min_left_comm,
    Nat.min_eq_left (Nat.le_max_right 50 len), Nat.min_comm, Nat.mul_comm]

example : trimK 1 120 = 50 ∧ trimK 30 120 = 60 ∧ trimK 3 7 = 7 ∧ trimK 0 0 = 0 := by decide +kernel

theorem trimHits_counters (r : Nat) (h : Hits) :
    (trimHits r h).matchedPeaks = h.matchedPeaks ∧ (trimHits r h).scored = h.scored := by
  cases h
  exact ⟨rfl, rfl⟩

theorem heapify_extract (a : Array PreScore) (k : Nat) :
    ((Sage.C10.boundedMinHeapify PreScore.lt a k).extract 0 k).size = min a.size k ∧
    ∃ dropped, (((Sage.C10.boundedMinHeapify PreScore.lt a k).extract 0 k).toList ++ dropped).Perm a.toList ∧
      ∀ x ∈ ((Sage.C10.boundedMinHeapify PreScore.lt a k).extract 0 k).toList, ∀ y ∈ dropped, y ≤ x := by
  have hperm := Sage.C10.heapify_perm PreScore.lt a k
  have htop := Sage.C10.heapify_topk PreScore.lt PreScore.lt_eq a k
  generalize Sage.C10.boundedMinHeapify PreScore.lt a k = b at hperm htop ⊢
  have hsize : b.size = a.size := hperm.length_eq
  have htake : (b.extract 0 k).toList = b.toList.take k := by
    rw [Array.toList_extract, List.extract_eq_take_drop, List.drop_zero, Nat.sub_zero]
  refine ⟨by rw [Array.size_extract, hsize, Nat.sub_zero, Nat.min_comm], b.toList.drop k, ?_, ?_⟩
  · rw [htake, List.take_append_drop]
    exact hperm
  · rw [htake]
    intro x hx y hy
    obtain ⟨t, hxt⟩ := List.mem_iff_getElem?.mp hx
    obtain ⟨j, hyj⟩ := List.mem_iff_getElem?.mp hy
    rw [List.getElem?_take] at hxt
    rw [List.getElem?_drop, Array.getElem?_toList] at hyj
    split at hxt
    · rename_i htk
      have hj := (Array.getElem?_eq_some_iff.mp hyj).1
      rw [Array.getElem?_toList] at hxt
      exact htop (Nat.zero_lt_of_lt htk) (hsize ▸ Nat.lt_of_le_of_lt (Nat.le_add_right k j) hj) t (k + j) x y htk
        (Nat.le_add_right k j) hxt hyj
    · cases hxt

/-- `trim_hits` keeps the top `min len (max 50 (2·report_psms))` preliminary scores in the derived order of `PreScore`
    (matched count first; ties by peptide index, charge, isotope error); the counters are untouched. -/
theorem trim_topk (r : Nat) (h : Hits) :
    (trimHits r h).prelim.size = min h.prelim.size (max 50 (2 * r)) ∧
    (trimHits r h).matchedPeaks = h.matchedPeaks ∧ (trimHits r h).scored = h.scored ∧
    ∃ dropped : List PreScore, ((trimHits r h).prelim.toList ++ dropped).Perm h.prelim.toList ∧
      ∀ x ∈ (trimHits r h).prelim.toList, ∀ y ∈ dropped, y ≤ x ∧ y.matched ≤ x.matched := by
  obtain ⟨hsz, dropped, hperm, hge⟩ := heapify_extract h.prelim (trimK r h.prelim.size)
  refine ⟨hsz.trans ?_, (trimHits_counters r h).1, (trimHits_counters r h).2, dropped, hperm, fun x hx y hy =>
    ⟨hge x hx y hy, PreScore.matched_le_of_le (hge x hx y hy)⟩⟩
  rw [(trim_k r h.prelim.size).1]
  exact Nat.min_eq_right (Nat.min_le_left _ _)

/-- 60 preliminary scores with matched counts 1..7: `trim_hits` (report_psms = 1) keeps 50, all with count ≥ 2,
    and drops 10, all with count ≤ 2 -/
def exHits : Hits :=
  ⟨9, 3, ((List.range 60).map fun i => (⟨i % 7 + 1, i, 2, 0⟩ : PreScore)).toArray⟩
example : (trimHits 1 exHits).prelim.size = 50 ∧
    ((trimHits 1 exHits).prelim.toList.all fun p => decide (p.matched ≥ 2)) = true := by
  -- 10 entries are dropped but only 9 have count 1: were an entry with count 1 kept, all dropped ones had count ≤ 1
  obtain ⟨hsz, -, -, dropped, hperm, hge⟩ := trim_topk 1 exHits
  replace hsz : (trimHits 1 exHits).prelim.size = 50 := hsz
  refine ⟨hsz, List.all_eq_true.mpr fun x hx => decide_eq_true ?_⟩
  by_contra hlt
  have hdrop : dropped.countP (fun p => decide (p.matched ≤ 1)) = dropped.length :=
    List.countP_eq_length.mpr fun y hy => decide_eq_true (Nat.le_trans (hge x hx y hy).2 (Nat.le_of_lt_succ (Nat.lt_of_not_le hlt)))
  have hlen := hperm.length_eq
  have hcnt := hperm.countP_eq fun p => decide (p.matched ≤ 1)
  rw [List.countP_append, hdrop] at hcnt
  have hones : exHits.prelim.toList.countP (fun p => decide (p.matched ≤ 1)) = 9 := by decide +kernel
  have hall : exHits.prelim.toList.length = 60 := rfl
  rw [List.length_append, Array.length_toList, hsz] at hlen
  omega

structure TopSplit (K : Nat) (kept dropped all : List PreScore) : Prop where
  perm : (kept ++ dropped).Perm all
  ge : ∀ x ∈ kept, ∀ y ∈ dropped, y ≤ x
  full : dropped ≠ [] → K ≤ kept.length

theorem topSplit_refl (K : Nat) (l : List PreScore) : TopSplit K l [] l :=
  ⟨by simp, by simp, by simp⟩

theorem trim_split (r : Nat) (h : Hits) : ∃ dropped,
    TopSplit (max 50 (2 * r)) (trimHits r h).prelim.toList dropped h.prelim.toList ∧
    (trimHits r h).prelim.toList.length = min h.prelim.toList.length (max 50 (2 * r)) := by
  obtain ⟨hlen, _, _, dropped, hperm, hge⟩ := trim_topk r h
  refine ⟨dropped, ⟨hperm, fun x hx y hy => (hge x hx y hy).1, fun hne => ?_⟩, hlen⟩
  have hsum := hperm.length_eq
  have hpos := List.length_pos_iff.mpr hne
  simp only [List.length_append, Array.length_toList] at hsum ⊢
  generalize max 50 (2 * r) = K at hlen ⊢
  omega

theorem sublist_flatMap {ι α : Type} {gs : List ι} (f : ι → List α) {g : ι} (hg : g ∈ gs) :
    (f g).Sublist (gs.flatMap f) := by
  rw [List.flatMap_def]
  exact List.sublist_flatten_of_mem (List.mem_map_of_mem hg)

theorem topSplit_comp {K : Nat} {ι : Type} {gs : List ι} {kept all : ι → List PreScore}
    (hg : ∀ g ∈ gs, ∃ d, TopSplit K (kept g) d (all g))
    {kf df : List PreScore} (hf : TopSplit K kf df (gs.flatMap kept))
    (hlen : kf.length = min (gs.flatMap kept).length K) :
    ∃ d, TopSplit K kf d (gs.flatMap all) := by
  choose! dropped hd using hg
  have hK : ∀ g ∈ gs, ∀ y ∈ dropped g, K ≤ (kept g).length :=
    fun g hgm y hy => (hd g hgm).full (List.ne_nil_of_mem hy)
  refine ⟨df ++ gs.flatMap dropped, ?_, ?_, ?_⟩
  · rw [← List.append_assoc]
    exact ((hf.perm.append_right _).trans (List.flatMap_append_perm gs kept dropped)).trans
      (List.Perm.flatMap_left gs fun g hgm => (hd g hgm).perm)
  · intro x hx y hy
    rcases List.mem_append.mp hy with hy | hy
    · exact hf.ge x hx y hy
    · obtain ⟨g, hgm, hyg⟩ := List.mem_flatMap.mp hy
      by_contra hnot
      -- count the entries above `x`: all of `kept g`, at least `K`; none of `df`; so at least `K` of `kf`, which has
      -- at most `K` entries, one of them `x` itself
      have h1 : (kept g).countP (fun v => decide (x < v)) = (kept g).length :=
        List.countP_eq_length.mpr fun v hv =>
          decide_eq_true (lt_of_lt_of_le (lt_of_not_ge hnot) ((hd g hgm).ge v hv y hyg))
      have h2 : df.countP (fun v => decide (x < v)) = 0 :=
        List.countP_eq_zero.mpr fun v hv hp => absurd (hf.ge x hx v hv) (not_le_of_gt (of_decide_eq_true hp))
      have h3 := hf.perm.countP_eq fun v => decide (x < v)
      rw [List.countP_append, h2] at h3
      have h4 := (sublist_flatMap kept hgm).countP_le (p := fun v => decide (x < v))
      have h5 : kf.countP (fun v => decide (x < v)) < kf.length :=
        Nat.lt_of_le_of_ne List.countP_le_length fun h =>
          absurd (of_decide_eq_true (List.countP_eq_length.mp h x hx)) (lt_irrefl x)
      have := hK g hgm y hyg
      omega
  · intro hne
    obtain ⟨y, hy⟩ := List.exists_mem_of_ne_nil _ hne
    rcases List.mem_append.mp hy with hy | hy
    · exact hf.full (List.ne_nil_of_mem hy)
    · obtain ⟨g, hgm, hyg⟩ := List.mem_flatMap.mp hy
      exact (hlen.trans (Nat.min_eq_right ((hK g hgm y hyg).trans (sublist_flatMap kept hgm).length_le))).ge

def SumOf {ι : Type} (h : Hits) (gs : List ι) (f : ι → Hits) : Prop :=
  h.prelim.toList = gs.flatMap (fun g => (f g).prelim.toList) ∧ h.scored = (gs.map fun g => (f g).scored).sum

theorem sumOf_singleton {ι : Type} (f : ι → Hits) (g : ι) : SumOf (f g) [g] f :=
  ⟨(List.flatMap_singleton (fun g => (f g).prelim.toList) g).symm, rfl⟩

/-- `hits += part` over `gs`, from `InitialHits::default()` -/
theorem sumOf_foldl {ι : Type} (f : ι → Hits) (gs : List ι) : SumOf (gs.foldl (fun h g => h.add (f g)) {}) gs f := by
  have hgen : ∀ (gs : List ι) (init : Hits),
      (gs.foldl (fun h g => h.add (f g)) init).prelim.toList =
        init.prelim.toList ++ gs.flatMap (fun g => (f g).prelim.toList) ∧
      (gs.foldl (fun h g => h.add (f g)) init).scored = init.scored + (gs.map fun g => (f g).scored).sum := by
    intro gs
    induction gs with
    | nil => exact fun init => ⟨(List.append_nil _).symm, rfl⟩
    | cons a as ih =>
      intro init
      obtain ⟨h1, h2⟩ := ih (init.add (f a))
      refine ⟨h1.trans ?_, h2.trans (Nat.add_assoc _ _ _)⟩
      show (init.prelim ++ (f a).prelim).toList ++ _ = _
      rw [Array.toList_append, List.append_assoc]
      rfl
  exact ⟨(hgen gs {}).1, (hgen gs {}).2.trans (Nat.zero_add _)⟩

structure Keeps (K : Nat) (h : Hits) (all : List PreScore) : Prop where
  split : ∃ d, TopSplit K h.prelim.toList d all
  scored : h.scored = all.countP PreScore.pos

theorem keeps_trimHits {ι : Type} {r : Nat} {h : Hits} {gs : List ι} {f : ι → Hits} {all : ι → List PreScore}
    (hsum : SumOf h gs f) (hf : ∀ g ∈ gs, Keeps (max 50 (2 * r)) (f g) (all g)) :
    Keeps (max 50 (2 * r)) (trimHits r h) (gs.flatMap all) := by
  obtain ⟨df, hsplit, hlen⟩ := trim_split r h
  rw [hsum.1] at hsplit hlen
  refine ⟨topSplit_comp (fun g hg => (hf g hg).split) hsplit hlen, ?_⟩
  rw [(trimHits_counters r h).2, hsum.2, List.countP_flatMap]
  exact congrArg List.sum (List.map_congr_left fun g hg => (hf g hg).scored)

section levels
variable {α β : Type} [LinearOrder α]

theorem mpwiRaw_scored (E : Env α β) (db : Db α) (ftol : Tol α) (mfcCfg : Option Nat) (peaks : List (Peak α))
    (pm : α) (z : Nat) (ptol : Tol α) (e : Int) :
    (mpwiRaw E db ftol mfcCfg peaks pm z ptol e).scored =
      (mpwiRaw E db ftol mfcCfg peaks pm z ptol e).prelim.toList.countP PreScore.pos := by
  unfold mpwiRaw
  refine List.foldlRecOn _ _ ?_ fun h hs p _ => bump_scored _ _ _ h p hs
  show 0 = List.countP PreScore.pos (Array.replicate _ default).toList
  rw [Array.toList_replicate, List.countP_replicate]
  rfl

theorem keeps_mpwi (E : Env α β) (db : Db α) (cfg : Cfg α) (peaks : List (Peak α)) (pm : α) (z : Nat) (ptol : Tol α)
    (e : Int) : Keeps (max 50 (2 * cfg.reportPsms)) (mpwi E db cfg peaks pm z ptol e)
      (mpwiRaw E db cfg.ftol cfg.mfc peaks pm z ptol e).prelim.toList := by
  have hraw : Keeps (max 50 (2 * cfg.reportPsms)) (mpwiRaw E db cfg.ftol cfg.mfc peaks pm z ptol e) _ :=
    ⟨⟨[], topSplit_refl _ _⟩, mpwiRaw_scored ..⟩
  unfold mpwi
  simp only
  split
  · exact hraw
  · have := keeps_trimHits (r := cfg.reportPsms)
      (sumOf_singleton (fun _ : Unit => mpwiRaw E db cfg.ftol cfg.mfc peaks pm z ptol e) ()) fun _ _ => hraw
    rwa [List.flatMap_singleton] at this

def rawOf (E : Env α β) (db : Db α) (cfg : Cfg α) (peaks : List (Peak α)) (pm : α) (z : Nat) (ptol : Tol α) : List PreScore :=
  (isotopes cfg.isoLo cfg.isoHi).flatMap fun e => (mpwiRaw E db cfg.ftol cfg.mfc peaks pm z ptol e).prelim.toList

theorem keeps_matchedPeaks (E : Env α β) (db : Db α) (cfg : Cfg α) (peaks : List (Peak α)) (pm : α) (z : Nat)
    (ptol : Tol α) : Keeps (max 50 (2 * cfg.reportPsms)) (matchedPeaks E db cfg peaks pm z ptol)
      (rawOf E db cfg peaks pm z ptol) := by
  unfold matchedPeaks rawOf isotopes
  split
  · exact keeps_trimHits (sumOf_foldl _ _) fun e _ => keeps_mpwi ..
  · rw [List.flatMap_singleton]
    exact keeps_mpwi ..

/-- `matched_peaks` for one searched (charge, tolerance) pair -/
def oneHits (E : Env α β) (db : Db α) (cfg : Cfg α) (peaks : List (Peak α)) (prec : Precursor α) (zt : Nat × Tol α) : Hits :=
  matchedPeaks E db cfg peaks (E.mul (E.sub prec.mz E.proton) (E.ofNat zt.1)) zt.1 zt.2

/-- all dense-vector entries of all searched windows -/
def allRaw (E : Env α β) (db : Db α) (cfg : Cfg α) (peaks : List (Peak α)) (prec : Precursor α) : List PreScore :=
  (searched E cfg prec).flatMap fun zt =>
    rawOf E db cfg peaks (E.mul (E.sub prec.mz E.proton) (E.ofNat zt.1)) zt.1 zt.2

theorem initialHits_sum (E : Env α β) (db : Db α) (cfg : Cfg α) (peaks : List (Peak α)) (prec : Precursor α) :
    ∃ h, initialHits E db cfg peaks prec = trimHits cfg.reportPsms h ∧
      SumOf h (searched E cfg prec) (oneHits E db cfg peaks prec) := by
  unfold initialHits
  simp only
  by_cases hw : cfg.wideWindow = true
  · rw [if_pos hw]
    exact ⟨_, rfl, sumOf_foldl _ _⟩
  · rw [if_neg hw]
    split
    · rename_i z hc ho
      refine ⟨_, rfl, ?_⟩
      unfold searched
      rw [if_neg hw, hc, ho]
      exact sumOf_singleton (oneHits E db cfg peaks prec) (z, cfg.ptol)
    · exact ⟨_, rfl, sumOf_foldl _ _⟩

theorem keeps_initialHits (E : Env α β) (db : Db α) (cfg : Cfg α) (peaks : List (Peak α)) (prec : Precursor α) :
    Keeps (max 50 (2 * cfg.reportPsms)) (initialHits E db cfg peaks prec) (allRaw E db cfg peaks prec) := by
  obtain ⟨h, heq, hsum⟩ := initialHits_sum E db cfg peaks prec
  rw [heq]
  exact keeps_trimHits hsum fun zt _ => keeps_matchedPeaks ..

/-- The three levels of trimming (per isotope error, per precursor charge, final) together select a top-`K`,
    `K = max 50 (2·report_psms)`, of all dense-vector entries of all searched windows (`candidates_exact` says what
    those are), in all three charge modes and both isotope branches. -/
theorem retained_topk (E : Env α β) (db : Db α) (cfg : Cfg α) (peaks : List (Peak α)) (prec : Precursor α) :
    ∃ dropped, TopSplit (max 50 (2 * cfg.reportPsms)) (initialHits E db cfg peaks prec).prelim.toList dropped
      (allRaw E db cfg peaks prec) :=
  (keeps_initialHits ..).split

/-- `scored_candidates` (summed by `AddAssign` over isotope errors and charges, untouched by `trim_hits`) is the
    number of dense-vector slots with a positive count over all searched windows, before any trimming. -/
theorem scored_exact (E : Env α β) (db : Db α) (cfg : Cfg α) (peaks : List (Peak α)) (prec : Precursor α) :
    (initialHits E db cfg peaks prec).scored = ((allRaw E db cfg peaks prec).filter PreScore.pos).length :=
  (keeps_initialHits ..).scored.trans List.countP_eq_length_filter

/-- the (charge, isotope) pair was searched, the peptide's mass lies in that pair's precursor window, and ≥ 1 indexed
    fragment of the peptide matches -/
def InWindow (E : Env α β) (db : Db α) (cfg : Cfg α) (peaks : List (Peak α)) (prec : Precursor α)
    (pep charge : Nat) (iso : Int) : Prop :=
  ∃ zt ∈ searched E cfg prec, ∃ e ∈ isotopes cfg.isoLo cfg.isoHi, charge = zt.1 ∧ iso = e ∧
    (∃ m, db.masses[pep]? = some m ∧
      (Sage.C04.tolBounds E zt.2 (queryMass E (E.mul (E.sub prec.mz E.proton) (E.ofNat zt.1)) e)).1 ≤ m ∧
      m ≤ (Sage.C04.tolBounds E zt.2 (queryMass E (E.mul (E.sub prec.mz E.proton) (E.ofNat zt.1)) e)).2) ∧
    0 < ((scanHits E db zt.2 cfg.ftol (queryMass E (E.mul (E.sub prec.mz E.proton) (E.ofNat zt.1)) e) peaks
          (Sage.C04.maxFragmentCharge cfg.mfc zt.1)).map (·.pep)).count pep

/-- every retained preliminary entry with `matched > 0` is in the window of the (charge, isotope) pair it records -/
theorem prelim_in_window (E : Env α β) (db : Db α) (inv : Sage.C03.DbInv db.masses db.minv db.frags db.B)
    (cfg : Cfg α) (peaks : List (Peak α)) (prec : Precursor α) (c : PreScore)
    (hc : c ∈ (initialHits E db cfg peaks prec).prelim.toList) (hm : 0 < c.matched) :
    InWindow E db cfg peaks prec c.peptide c.charge c.iso := by
  obtain ⟨d, hsplit⟩ := retained_topk E db cfg peaks prec
  obtain ⟨zt, hzt, hx⟩ := List.mem_flatMap.mp (hsplit.perm.mem_iff.mp (List.mem_append_left d hc))
  obtain ⟨e, he, hx⟩ := List.mem_flatMap.mp hx
  refine ⟨zt, hzt, e, he, ?_⟩
  obtain ⟨i, hi⟩ := List.mem_iff_getElem?.mp hx
  rw [Array.getElem?_toList] at hi
  obtain ⟨_, _, hwin, hcnt⟩ := candidates_exact E db inv cfg.ftol zt.2 cfg.mfc peaks
    (E.mul (E.sub prec.mz E.proton) (E.ofNat zt.1)) zt.1 e
  obtain ⟨sc, hsc, hcount, _, hpos⟩ := hcnt i (Array.getElem?_eq_some_iff.mp hi).1
  cases hi.symm.trans hsc
  obtain ⟨hpep, hz, hiso⟩ := hpos hm
  have hpos' := hm
  rw [hcount, ← hpep] at hpos'
  obtain ⟨f, hf, hfe⟩ := List.mem_map.mp (List.count_pos_iff.mp hpos')
  obtain ⟨_, _, m, hm1, hm2, hm3⟩ := hwin f hf
  exact ⟨hz, hiso, ⟨m, hfe ▸ hm1, hm2, hm3⟩, hpos'⟩

/-- `initial_hits` followed by `build_features`, for every scorer that copies peptide, charge and isotope error from
    the preliminary entry (as `score_candidate` does): every reported PSM carries a (charge, isotope error) pair that
    was searched, its peptide's mass lies in that pair's precursor window, and ≥ 1 indexed fragment of the peptide
    matches a peak. -/
theorem reported_in_window (E : Env α β) (tle : β → β → Bool) (sub : β → β → β) (zero : β) (db : Db α)
    (inv : Sage.C03.DbInv db.masses db.minv db.frags db.B) (cfg : Cfg α)
    (peaks : List (Peak α)) (prec : Precursor α) (score : PreScore → Cand β) (hpre : ∀ c, (score c).pre = c)
    (p : Psm β) (hp : p ∈ buildFeatures tle sub zero score cfg.minMatched cfg.reportPsms
      (initialHits E db cfg peaks prec).prelim.toList) :
    ∃ zt ∈ searched E cfg prec, ∃ e ∈ isotopes cfg.isoLo cfg.isoHi, p.charge = zt.1 ∧ p.iso = e ∧
      (∃ m, db.masses[p.pep]? = some m ∧
        (Sage.C04.tolBounds E zt.2 (queryMass E (E.mul (E.sub prec.mz E.proton) (E.ofNat zt.1)) e)).1 ≤ m ∧
        m ≤ (Sage.C04.tolBounds E zt.2 (queryMass E (E.mul (E.sub prec.mz E.proton) (E.ofNat zt.1)) e)).2) ∧
      0 < ((scanHits E db zt.2 cfg.ftol (queryMass E (E.mul (E.sub prec.mz E.proton) (E.ofNat zt.1)) e) peaks
            (Sage.C04.maxFragmentCharge cfg.mfc zt.1)).map (·.pep)).count p.pep := by
  obtain ⟨c, hc, hm, _, h1, h2, h3, _, _⟩ := mem_buildFeatures tle sub zero hp
  rw [hpre c] at h1 h2 h3
  rw [h1, h2, h3]
  exact prelim_in_window E db inv cfg peaks prec c hc hm

end levels

/-- on the toy search nothing is dropped (4 entries ≤ 50) and `allRaw` is the one dense vector of the searched window -/
theorem exAllRaw : allRaw exEnv exDb exCfg exPeaks exPrec = [⟨2, 0, 2, 0⟩, ⟨1, 1, 2, 0⟩, ⟨1, 2, 2, 0⟩, ⟨0, 0, 0, 0⟩] := by
  decide +kernel
example : allRaw exEnv exDb exCfg exPeaks exPrec = [⟨2, 0, 2, 0⟩, ⟨1, 1, 2, 0⟩, ⟨1, 2, 2, 0⟩, ⟨0, 0, 0, 0⟩] := exAllRaw

section chimera
variable {σ β : Type} (tle : β → β → Bool) (sub : β → β → β) (zero : β)
  (score : σ → PreScore → Cand β) (remove : σ → Psm β → σ) (minMatched r : Nat) (prelim : List PreScore)

/-- The chimeric report starting from spectrum `q` with `n` PSMs out. `full`: `report_psms` PSMs are out. `stop`: no
    retained candidate reaches `min_matched_peaks` on the current spectrum. `step`: the head of the round's score
    vector is reported with rank `n + 1` and the run continues on the spectrum with its matched peaks removed. -/
inductive ChimeraRun : σ → Nat → List (Psm β) → Prop
  | full (q : σ) (n : Nat) : r ≤ n → ChimeraRun q n []
  | stop (q : σ) (n : Nat) : n < r → scoreVector tle (score q) minMatched prelim = [] → ChimeraRun q n []
  | step (q : σ) (n : Nat) (c : Cand β) (sv' : List (Cand β)) (rest : List (Psm β)) : n < r →
      scoreVector tle (score q) minMatched prelim = c :: sv' →
      ChimeraRun (remove q (mkPsm sub zero (c :: sv') c 0)) (n + 1) rest →
      ChimeraRun q n ({ mkPsm sub zero (c :: sv') c 0 with rank := n + 1 } :: rest)

theorem buildFeatures_one (sc : PreScore → Cand β) :
    buildFeatures tle sub zero sc minMatched 1 prelim =
      match scoreVector tle sc minMatched prelim with
      | [] => []
      | c :: sv' => [mkPsm sub zero (c :: sv') c 0] := by
  unfold buildFeatures reportFrom
  cases scoreVector tle sc minMatched prelim with
  | nil => rfl
  | cons c sv' => rfl

/-- `score_chimera_fast`'s loop, run with at least `report_psms − |acc|` iterations of fuel (the model uses
    `report_psms`), returns `acc` followed by a `ChimeraRun`. -/
theorem chimera_spec : ∀ (fuel : Nat) (q : σ) (acc : List (Psm β)), r ≤ acc.length + fuel →
    ∃ rest, chimeraLoop tle sub zero score remove minMatched r prelim fuel q acc = acc ++ rest ∧
      ChimeraRun tle sub zero score remove minMatched r prelim q acc.length rest := by
  intro fuel
  induction fuel with
  | zero => exact fun q acc h => ⟨[], (List.append_nil acc).symm, ChimeraRun.full q _ h⟩
  | succ f ih =>
    intro q acc h
    unfold chimeraLoop
    by_cases hlt : acc.length < r
    · rw [if_pos hlt, buildFeatures_one]
      cases hsv : scoreVector tle (score q) minMatched prelim with
      | nil => exact ⟨[], (List.append_nil acc).symm, ChimeraRun.stop q _ hlt hsv⟩
      | cons c sv' =>
        obtain ⟨rest, h1, h2⟩ := ih (remove q (mkPsm sub zero (c :: sv') c 0))
          (acc ++ [{ mkPsm sub zero (c :: sv') c 0 with rank := acc.length + 1 }])
          (by rw [List.length_append, List.length_singleton, Nat.add_right_comm]; exact h)
        rw [List.length_append] at h2
        exact ⟨_ :: rest, h1.trans (List.append_assoc _ _ _), ChimeraRun.step q _ c sv' rest hlt hsv h2⟩
    · rw [if_neg hlt]
      exact ⟨[], (List.append_nil acc).symm, ChimeraRun.full q _ (Nat.le_of_not_lt hlt)⟩

/-- ranks continue `n+1, n+2, …` without gaps and at most `report_psms` PSMs are out in total -/
theorem chimeraRun_ranks (q : σ) (n : Nat) (rest : List (Psm β))
    (h : ChimeraRun tle sub zero score remove minMatched r prelim q n rest) :
    (∀ (i : Nat) (p : Psm β), rest[i]? = some p → p.rank = n + i + 1) ∧ (rest ≠ [] → n + rest.length ≤ r) := by
  induction h with
  | full | stop => exact ⟨fun i p hp => (by cases hp), fun h => absurd rfl h⟩
  | step q n c sv' rest hn hsv _ ih =>
    refine ⟨fun i p hp => ?_, fun _ => ?_⟩
    · cases i with
      | zero => cases hp; rfl
      | succ i => exact (ih.1 i p hp).trans (congrArg (· + 1) (Nat.add_right_comm n 1 i))
    · by_cases hr : rest = []
      · subst hr; exact hn
      · exact Nat.add_right_comm n 1 _ ▸ ih.2 hr

/-- the PSM of a chimeric round is the best retained candidate on the current spectrum -/
theorem scoreVector_head_best (htle : TotalPre tle) (sc : PreScore → Cand β) (c : Cand β) (sv' : List (Cand β))
    (h : scoreVector tle sc minMatched prelim = c :: sv') :
    (∃ p ∈ prelim, 0 < p.matched ∧ c = sc p ∧ minMatched ≤ c.matched) ∧
    ∀ p ∈ prelim, 0 < p.matched → minMatched ≤ (sc p).matched → tle (sc p).hs c.hs = true := by
  refine ⟨(mem_scoreVector tle sc minMatched prelim c).mp (h ▸ List.mem_cons_self), fun p hp hm hmin => ?_⟩
  obtain ⟨j, hj⟩ := List.mem_iff_getElem?.mp
    ((mem_scoreVector tle sc minMatched prelim (sc p)).mpr ⟨p, hp, hm, rfl, hmin⟩)
  exact desc_getElem tle htle (scoreVector_desc tle htle) (Nat.zero_le j) (by rw [h]; rfl) hj

/-- the spectrum left after removing the peaks of the PSMs `ps`, in order -/
def residual (remove : σ → Psm β → σ) (q : σ) (ps : List (Psm β)) : σ := ps.foldl remove q

theorem residual_cons (q : σ) (f : Psm β) (ps : List (Psm β)) :
    residual remove q (f :: ps) = residual remove (remove q f) ps := rfl

/-- PSM `i` of a run is the head of the score vector computed on the spectrum left after PSMs `0..i-1`, and a run that
    ends early ends on an empty score vector. `remove` must not read the rank (`remove_matched_peaks` reads the peptide
    and the charge only), because the code overwrites the rank after the removal. -/
theorem chimeraRun_rounds (hrem : ∀ (q : σ) (f : Psm β) (k : Nat), remove q { f with rank := k } = remove q f)
    (q : σ) (n : Nat) (rest : List (Psm β))
    (h : ChimeraRun tle sub zero score remove minMatched r prelim q n rest) :
    (∀ (i : Nat) (p : Psm β), rest[i]? = some p → ∃ c sv',
        scoreVector tle (score (residual remove q (rest.take i))) minMatched prelim = c :: sv' ∧
        p = { mkPsm sub zero (c :: sv') c 0 with rank := n + i + 1 }) ∧
    (n + rest.length < r → scoreVector tle (score (residual remove q rest)) minMatched prelim = []) := by
  induction h with
  | full q n hn => exact ⟨fun i p hp => (by cases hp), fun hlt => absurd hlt (Nat.not_lt.mpr hn)⟩
  | stop q n _ hsv => exact ⟨fun i p hp => (by cases hp), fun _ => hsv⟩
  | step q n c sv' rest hn hsv _ ih =>
    refine ⟨fun i p hp => ?_, fun hlt => ?_⟩
    · cases i with
      | zero =>
        cases hp
        exact ⟨c, sv', hsv, rfl⟩
      | succ i =>
        obtain ⟨c', sv'', h1, h2⟩ := ih.1 i p hp
        refine ⟨c', sv'', ?_, ?_⟩
        · rw [List.take_succ_cons, residual_cons, hrem]
          exact h1
        · rw [h2, Nat.add_right_comm n 1 i]
          rfl
    · rw [residual_cons, hrem]
      exact ih.2 (Nat.add_right_comm n 1 _ ▸ hlt)

end chimera

/-- a toy chimeric run over `ℤ`: the "spectrum" is the list of peptides already explained; a candidate whose peptide
    was removed matches nothing any more -/
def exChimScore (q : List Nat) (p : PreScore) : Cand Int :=
  if q.contains p.peptide then { pre := p, matched := 0, hs := 0 } else exScore p
/-- three rounds: peptides 2 (23), 7 (18), 0 (5) are reported with ranks 1, 2, 3; `delta_next` is the gap to the
    runner-up of the SAME round (23−18, 18−5, 5−(−14)), `delta_best` is 0 -/
example : (chimeraLoop (fun (x y : Int) => decide (x ≤ y)) (· - ·) 0 exChimScore (fun q f => f.pep :: q) 2 3 exPrelim 3 [] []).map
    (fun p => (p.pep, p.rank, p.hs, p.dnext, p.dbest)) = [(2, 1, 23, 5, 0), (7, 2, 18, 13, 0), (0, 3, 5, 19, 0)] := by decide +kernel
/-- with `report_psms = 5` the run stops after 4 PSMs: nothing reaches `min_matched_peaks = 2` any more -/
example : (chimeraLoop (fun (x y : Int) => decide (x ≤ y)) (· - ·) 0 exChimScore (fun q f => f.pep :: q) 2 5 exPrelim 5 [] []).map
    (fun p => (p.pep, p.rank)) = [(2, 1), (7, 2), (0, 3), (9, 4)] := by decide +kernel

section searchlevel
variable {α β : Type} [LinearOrder α] [BEq α]

/-- `score_candidate` on the spectrum `q` with the scorer's settings -/
def scoreOn (E : Env α β) (cfg : Cfg α) (info : PepInfo α) (q : Array (Peak α)) : PreScore → Cand β :=
  scoreCand E cfg.ftol cfg.mfc info q

/-- `remove_matched_peaks(&mut query, psm)` with the scorer's settings (reads `psm.peptide_idx`, `psm.charge`) -/
def removeOn (E : Env α β) (cfg : Cfg α) (info : PepInfo α) (q : Array (Peak α)) (f : Psm β) : Array (Peak α) :=
  removeMatched E cfg.ftol cfg.mfc info q f.pep f.charge

theorem search_eq (E : Env α β) (tle : β → β → Bool) (db : Db α) (cfg : Cfg α) (info : PepInfo α)
    (peaks : List (Peak α)) (prec : Precursor α) :
    search E tle db cfg info peaks prec = ((initialHits E db cfg peaks prec).scored,
      if cfg.chimera then
        chimeraLoop tle E.subD (E.ofNatD 0) (scoreOn E cfg info) (removeOn E cfg info) cfg.minMatched cfg.reportPsms
          (initialHits E db cfg peaks prec).prelim.toList cfg.reportPsms peaks.toArray []
      else buildFeatures tle E.subD (E.ofNatD 0) (scoreOn E cfg info peaks.toArray) cfg.minMatched cfg.reportPsms
        (initialHits E db cfg peaks prec).prelim.toList) := by
  unfold search
  split <;> rfl

end searchlevel

section searchstd
variable {α β : Type} [LinearOrder α]

/-- `reported_in_window` for `Scorer::score` in standard mode (`score_candidate` copies peptide, charge and isotope
    error from the preliminary entry). -/
theorem search_in_window [BEq α] (E : Env α β) (tle : β → β → Bool) (db : Db α)
    (inv : Sage.C03.DbInv db.masses db.minv db.frags db.B) (cfg : Cfg α) (info : PepInfo α)
    (peaks : List (Peak α)) (prec : Precursor α) (hstd : cfg.chimera = false)
    (p : Psm β) (hp : p ∈ (search E tle db cfg info peaks prec).2) :
    ∃ zt ∈ searched E cfg prec, ∃ e ∈ isotopes cfg.isoLo cfg.isoHi, p.charge = zt.1 ∧ p.iso = e ∧
      (∃ m, db.masses[p.pep]? = some m ∧
        (Sage.C04.tolBounds E zt.2 (queryMass E (E.mul (E.sub prec.mz E.proton) (E.ofNat zt.1)) e)).1 ≤ m ∧
        m ≤ (Sage.C04.tolBounds E zt.2 (queryMass E (E.mul (E.sub prec.mz E.proton) (E.ofNat zt.1)) e)).2) ∧
      0 < ((scanHits E db zt.2 cfg.ftol (queryMass E (E.mul (E.sub prec.mz E.proton) (E.ofNat zt.1)) e) peaks
            (Sage.C04.maxFragmentCharge cfg.mfc zt.1)).map (·.pep)).count p.pep := by
  simp only [search_eq, hstd, Bool.false_eq_true, if_false] at hp
  exact reported_in_window E tle E.subD (E.ofNatD 0) db inv cfg peaks prec _ (fun _ => rfl) p hp

end searchstd

section searchlevel
variable {α β : Type} [LinearOrder α] [BEq α]

/-- `Scorer::score` with `chimera = true`. `resid i` is the query spectrum after `remove_matched_peaks` for the
    reported PSMs `0..i-1`, `prelim` the retained preliminary entries of the original spectrum: PSM `i` has rank `i + 1`
    and is the head of the score vector computed on `resid i`, and if `k < report_psms` the score vector on `resid k`
    is empty. -/
theorem search_chimera_rounds (E : Env α β) (tle : β → β → Bool) (db : Db α) (cfg : Cfg α) (info : PepInfo α)
    (peaks : List (Peak α)) (prec : Precursor α) (hch : cfg.chimera = true) :
    let prelim := (initialHits E db cfg peaks prec).prelim.toList
    let out := (search E tle db cfg info peaks prec).2
    let resid := fun (i : Nat) => residual (removeOn E cfg info) peaks.toArray (out.take i)
    out.length ≤ cfg.reportPsms ∧
    (∀ (i : Nat) (p : Psm β), out[i]? = some p → p.rank = i + 1 ∧ ∃ c sv',
        scoreVector tle (scoreOn E cfg info (resid i)) cfg.minMatched prelim = c :: sv' ∧
        p = { mkPsm E.subD (E.ofNatD 0) (c :: sv') c 0 with rank := i + 1 }) ∧
    (out.length < cfg.reportPsms →
        scoreVector tle (scoreOn E cfg info (resid out.length)) cfg.minMatched prelim = []) := by
  obtain ⟨rest, hrest, hrun⟩ := chimera_spec tle E.subD (E.ofNatD 0) (scoreOn E cfg info) (removeOn E cfg info)
    cfg.minMatched cfg.reportPsms (initialHits E db cfg peaks prec).prelim.toList cfg.reportPsms peaks.toArray []
    (Nat.le_add_left _ _)
  have hout : (search E tle db cfg info peaks prec).2 = rest := by
    simp only [search_eq, if_pos hch]
    exact hrest
  rw [hout]
  intro prelim out resid
  have hranks := chimeraRun_ranks (n := 0) (h := hrun)
  have hrounds := chimeraRun_rounds (n := 0) (h := hrun) (hrem := fun _ _ _ => rfl)
  refine ⟨?_, fun i p hp => ?_, fun hlt => ?_⟩
  · by_cases hr : rest = []
    · subst hr
      exact Nat.zero_le _
    · exact Nat.zero_add rest.length ▸ hranks.2 hr
  · obtain ⟨c, sv', h1, h2⟩ := hrounds.1 i p hp
    rw [Nat.zero_add] at h2
    exact ⟨by rw [h2], c, sv', h1, h2⟩
  · have := hrounds.2 ((Nat.zero_add _).symm ▸ hlt)
    rwa [← List.take_length (l := rest)] at this

/-- The chimeric `no_better_left_out`, per round: PSM `i` is the full score on `resid i` of a retained entry reaching
    `min_matched_peaks` there, every retained candidate reaching it on `resid i` scores `≤` it, and a slot stays empty
    only if no retained candidate reaches it on the final residual spectrum. -/
theorem search_chimera_best (E : Env α β) (tle : β → β → Bool) (htle : TotalPre tle) (db : Db α) (cfg : Cfg α)
    (info : PepInfo α) (peaks : List (Peak α)) (prec : Precursor α) (hch : cfg.chimera = true) :
    let prelim := (initialHits E db cfg peaks prec).prelim.toList
    let out := (search E tle db cfg info peaks prec).2
    let resid := fun (i : Nat) => residual (removeOn E cfg info) peaks.toArray (out.take i)
    (∀ (i : Nat) (p : Psm β), out[i]? = some p →
        (∃ pre ∈ prelim, 0 < pre.matched ∧ cfg.minMatched ≤ (scoreOn E cfg info (resid i) pre).matched ∧
          p.pep = pre.peptide ∧ p.charge = pre.charge ∧ p.iso = pre.iso ∧
          p.hs = (scoreOn E cfg info (resid i) pre).hs ∧ p.matched = (scoreOn E cfg info (resid i) pre).matched) ∧
        ∀ pre ∈ prelim, 0 < pre.matched → cfg.minMatched ≤ (scoreOn E cfg info (resid i) pre).matched →
          tle (scoreOn E cfg info (resid i) pre).hs p.hs = true) ∧
    (out.length < cfg.reportPsms → ∀ pre ∈ prelim, 0 < pre.matched →
        (scoreOn E cfg info (resid out.length) pre).matched < cfg.minMatched) := by
  intro prelim out resid
  obtain ⟨_, hround, hstop⟩ := search_chimera_rounds E tle db cfg info peaks prec hch
  refine ⟨fun i p hp => ?_, fun hlt pre hpre hm => ?_⟩
  · obtain ⟨_, c, sv', hsv, rfl⟩ := hround i p hp
    obtain ⟨⟨pre, hpre, hm, rfl, hmin⟩, hbest⟩ :=
      scoreVector_head_best tle cfg.minMatched prelim htle (scoreOn E cfg info (resid i)) c sv' hsv
    exact ⟨⟨pre, hpre, hm, hmin, rfl, rfl, rfl, rfl, rfl⟩, hbest⟩
  · by_contra hnot
    have hmem := (mem_scoreVector tle (scoreOn E cfg info (resid out.length)) cfg.minMatched prelim _).mpr
      ⟨pre, hpre, hm, rfl, Nat.le_of_not_lt hnot⟩
    rw [hstop hlt] at hmem
    cases hmem

/-- Both modes: `k ≤ report_psms` and the PSM at position `i` has rank `i + 1`. -/
theorem search_ranks (E : Env α β) (tle : β → β → Bool) (db : Db α) (cfg : Cfg α) (info : PepInfo α)
    (peaks : List (Peak α)) (prec : Precursor α) :
    let out := (search E tle db cfg info peaks prec).2
    out.length ≤ cfg.reportPsms ∧ ∀ (i : Nat) (p : Psm β), out[i]? = some p → p.rank = i + 1 := by
  by_cases hch : cfg.chimera = true
  · obtain ⟨h1, h2, _⟩ := search_chimera_rounds E tle db cfg info peaks prec hch
    exact ⟨h1, fun i p hp => (h2 i p hp).1⟩
  · simp only [search_eq, if_neg hch]
    refine ⟨(reportFrom_length _ _ _ _).trans_le (Nat.min_le_left _ _), fun i p hp => ?_⟩
    obtain ⟨_, c, _, rfl⟩ := reportFrom_inv _ _ hp
    rfl

/-- `search_in_window` in both modes; in chimeric mode the matched fragment is on the original spectrum. -/
theorem search_in_window_all (E : Env α β) (tle : β → β → Bool) (db : Db α)
    (inv : Sage.C03.DbInv db.masses db.minv db.frags db.B) (cfg : Cfg α) (info : PepInfo α)
    (peaks : List (Peak α)) (prec : Precursor α) (p : Psm β) (hp : p ∈ (search E tle db cfg info peaks prec).2) :
    InWindow E db cfg peaks prec p.pep p.charge p.iso := by
  by_cases hch : cfg.chimera = true
  · obtain ⟨i, hi⟩ := List.mem_iff_getElem?.mp hp
    obtain ⟨_, hround, _⟩ := search_chimera_rounds E tle db cfg info peaks prec hch
    obtain ⟨_, c, sv', hsv, rfl⟩ := hround i p hi
    obtain ⟨pre, hpre, hm, rfl, _⟩ := (mem_scoreVector tle _ _ _ c).mp (hsv ▸ List.mem_cons_self)
    exact prelim_in_window E db inv cfg peaks prec pre hpre hm
  · exact search_in_window E tle db inv cfg info peaks prec (Bool.eq_false_iff.mpr hch) p hp

/-- `wide_window = true` (both modes): the reported charge lies in `min_precursor_charge..=max_precursor_charge`, and
    the peptide's mass lies within `Tolerance::bounds` of `isolation_window.unwrap_or(Da(-2.4, 2.4)) * charge` around
    `(mz − PROTON)·charge − isotope·NEUTRON`: the isolation window scaled by the charge, not `precursor_tol`. -/
theorem search_in_window_wide (E : Env α β) (tle : β → β → Bool) (db : Db α)
    (inv : Sage.C03.DbInv db.masses db.minv db.frags db.B) (cfg : Cfg α) (info : PepInfo α)
    (peaks : List (Peak α)) (prec : Precursor α) (hw : cfg.wideWindow = true)
    (p : Psm β) (hp : p ∈ (search E tle db cfg info peaks prec).2) :
    p.charge ∈ chargeRange cfg.zLo cfg.zHi ∧ p.iso ∈ isotopes cfg.isoLo cfg.isoHi ∧
    ∃ m, db.masses[p.pep]? = some m ∧
      let tol := tolMul E (prec.isoWin.getD cfg.defaultIsoWin) (E.ofNat p.charge)
      let pm := E.mul (E.sub prec.mz E.proton) (E.ofNat p.charge)
      (Sage.C04.tolBounds E tol (queryMass E pm p.iso)).1 ≤ m ∧ m ≤ (Sage.C04.tolBounds E tol (queryMass E pm p.iso)).2 := by
  obtain ⟨zt, hzt, e, he, hz, hi, ⟨m, hm, h1, h2⟩, _⟩ := search_in_window_all E tle db inv cfg info peaks prec p hp
  unfold searched at hzt
  rw [if_pos hw] at hzt
  obtain ⟨z, hzr, rfl⟩ := List.mem_map.mp hzt
  simp only at hz h1 h2
  subst hz hi
  exact ⟨hzr, he, m, hm, h1, h2⟩

/-- `scored_candidates` of `Scorer::score` is the counter of `initial_hits` in both modes -/
theorem search_scored (E : Env α β) (tle : β → β → Bool) (db : Db α) (cfg : Cfg α) (info : PepInfo α)
    (peaks : List (Peak α)) (prec : Precursor α) :
    (search E tle db cfg info peaks prec).1 = ((allRaw E db cfg peaks prec).filter PreScore.pos).length := by
  simp only [search_eq]
  exact scored_exact ..

/-- `label: peptide.label()` with `peptide = &self.db[score.peptide]`, in both modes, for `decoy` flags aligned with
    the peptide masses: the lookup is in bounds (no panic) and the label is `-1` exactly when the entry is a decoy. -/
theorem label_spec (E : Env α β) (tle : β → β → Bool) (db : Db α)
    (inv : Sage.C03.DbInv db.masses db.minv db.frags db.B) (cfg : Cfg α) (info : PepInfo α)
    (peaks : List (Peak α)) (prec : Precursor α) (decoy : Array Bool) (hsize : decoy.size = db.masses.size)
    (pl : Psm β × Option Int) (hp : pl ∈ withLabels decoy (search E tle db cfg info peaks prec).2) :
    pl.1 ∈ (search E tle db cfg info peaks prec).2 ∧
    ∃ d, decoy[pl.1.pep]? = some d ∧ pl.2 = some (if d then -1 else 1) := by
  obtain ⟨p, hpm, rfl⟩ := List.mem_map.mp hp
  refine ⟨hpm, ?_⟩
  obtain ⟨_, _, _, _, _, _, ⟨m, hm, _, _⟩, _⟩ := search_in_window_all E tle db inv cfg info peaks prec p hpm
  have hlt : p.pep < decoy.size := hsize ▸ (Array.getElem?_eq_some_iff.mp hm).1
  have hd := Array.getElem?_eq_getElem hlt
  exact ⟨_, hd, congrArg (Option.map _) hd⟩

end searchlevel

/-- the (fragment, charge) pairs of the double loop: charges are exactly `1 ≤ charge < mfc`, ions come from the series -/
theorem mem_fragCharges {α : Type} (series : List (Sage.C09.Kind × List α)) (mfc : Nat) (f : Sage.C04.FZ α)
    (h : f ∈ Sage.C04.fragCharges series mfc) :
    1 ≤ f.charge ∧ f.charge < mfc ∧ ∃ ks ∈ series, f.kind = ks.1 ∧ ks.2[f.idx]? = some f.ion := by
  unfold Sage.C04.fragCharges at h
  obtain ⟨ks, hks, h⟩ := List.mem_flatMap.mp h
  obtain ⟨mj, hmj, h⟩ := List.mem_flatMap.mp h
  obtain ⟨z, hz, rfl⟩ := List.mem_map.mp h
  have hz' := List.mem_range'_1.mp hz
  exact ⟨hz'.1, (by show z < mfc; omega), ks, hks, rfl, List.mem_zipIdx_iff_getElem?.mp hmj⟩

/-- `max_fragment_charge(Some(c), z) ≤ c + 1` whenever `c ≥ 1`, and `≤ max z 2` always -/
theorem maxFragmentCharge_le (cfg : Option Nat) (z : Nat) :
    Sage.C04.maxFragmentCharge cfg z ≤ max z 2 ∧ (∀ c, cfg = some c → 1 ≤ c → Sage.C04.maxFragmentCharge cfg z ≤ c + 1) := by
  unfold Sage.C04.maxFragmentCharge
  refine ⟨Nat.max_le.mpr ⟨Nat.le_trans (Nat.min_le_left _ _) (Nat.le_max_left _ _), Nat.le_max_right _ _⟩, ?_⟩
  rintro c rfl h1
  exact Nat.max_le.mpr ⟨Nat.min_le_right _ _, Nat.succ_le_succ h1⟩

section removal
variable {α β : Type} [LinearOrder α] [BEq α] [LawfulBEq α]

/-- `remove_matched_peaks(query, psm)` on a spectrum sorted by mass with intensities `≥ 0` (equality on `f32` taken as
    lawful: NaN-free). `fzs` are the (theoretical fragment, fragment charge) pairs of the PSM's peptide. The survivors
    are a sublist of the input; a peak survives iff it is not `==` (mass and intensity) to the peak selected for some
    `f`; the selected peak is the most intense one of `f`'s window (C04 `select_spec_tol`). -/
theorem removeMatched_spec (E : Env α β) (ftol : Tol α) (mfcCfg : Option Nat) (info : PepInfo α)
    (peaks : Array (Peak α)) (pep z : Nat)
    (hs : Sage.C03.SortedArr (peaks.map (·.mass))) (hnn : ∀ p ∈ peaks.toList, E.ofNat 0 ≤ p.intensity) :
    let fzs := Sage.C04.fragCharges (info.series pep) (Sage.C04.maxFragmentCharge mfcCfg z)
    let out := removeMatched E ftol mfcCfg info peaks pep z
    let lo := fun (f : Sage.C04.FZ α) => E.add (Sage.C04.tolBounds E ftol (Sage.C04.mzOf E f)).1 (E.ofNat 0)
    let hi := fun (f : Sage.C04.FZ α) => E.add (Sage.C04.tolBounds E ftol (Sage.C04.mzOf E f)).2 (E.ofNat 0)
    out.toList.Sublist peaks.toList ∧
    (∀ p, p ∈ out.toList ↔ p ∈ peaks.toList ∧
        ∀ f ∈ fzs, ∀ q, Sage.C04.select E peaks (Sage.C04.mzOf E f) ftol none = some q →
          ¬ (q.mass = p.mass ∧ q.intensity = p.intensity)) ∧
    (∀ f ∈ fzs, (Sage.C04.select E peaks (Sage.C04.mzOf E f) ftol none = none ↔
        ∀ p ∈ peaks.toList, ¬ (lo f ≤ p.mass ∧ p.mass ≤ hi f))) ∧
    (∀ f ∈ fzs, ∀ q, Sage.C04.select E peaks (Sage.C04.mzOf E f) ftol none = some q →
        q ∈ peaks.toList ∧ lo f ≤ q.mass ∧ q.mass ≤ hi f ∧
        (∀ q' ∈ peaks.toList, lo f ≤ q'.mass → q'.mass ≤ hi f → q'.intensity ≤ q.intensity) ∧
        q ∉ out.toList) := by
  intro fzs out lo hi
  have hmem : ∀ p, p ∈ out.toList ↔ p ∈ peaks.toList ∧
      ∀ f ∈ fzs, ∀ q, Sage.C04.select E peaks (Sage.C04.mzOf E f) ftol none = some q →
        ¬ (q.mass = p.mass ∧ q.intensity = p.intensity) := by
    intro p
    show p ∈ peaks.toList.filter _ ↔ _
    rw [List.mem_filter]
    simp only [Bool.not_eq_true', List.any_eq_false, List.mem_filterMap, Bool.and_eq_true, beq_iff_eq,
      forall_exists_index, and_imp]
    constructor
    · rintro ⟨h1, h2⟩
      exact ⟨h1, fun f hf q hq => h2 q f hf hq⟩
    · rintro ⟨h1, h2⟩
      exact ⟨h1, fun q f hf hq => h2 f hf q hq⟩
  refine ⟨List.filter_sublist (l := peaks.toList), hmem, ?_, ?_⟩
  · intro f _
    exact (Sage.C04.select_spec_tol E peaks (Sage.C04.mzOf E f) ftol none hs hnn).1
  · intro f hf q hq
    obtain ⟨h1, h2, h3, h4⟩ := (Sage.C04.select_spec_tol E peaks (Sage.C04.mzOf E f) ftol none hs hnn).2 q hq
    refine ⟨h1, h2, h3, h4, ?_⟩
    intro hin
    exact ((hmem q).mp hin).2 f hf q hq ⟨rfl, rfl⟩

omit [LawfulBEq α] in
/-- `query.total_ion_current` after the removal is the left-to-right sum of the intensities of the remaining peaks,
    started from `Iterator::sum`'s neutral element. -/
theorem removeMatched_tic (E : Env α β) (sumZero : α) (ftol : Tol α) (mfcCfg : Option Nat) (info : PepInfo α)
    (peaks : Array (Peak α)) (pep z : Nat) :
    (removeMatchedTic E sumZero ftol mfcCfg info peaks pep z).1 = removeMatched E ftol mfcCfg info peaks pep z ∧
    (removeMatchedTic E sumZero ftol mfcCfg info peaks pep z).2 =
      ((removeMatched E ftol mfcCfg info peaks pep z).toList.map (·.intensity)).foldl E.add sumZero :=
  ⟨rfl, List.foldl_map.symm⟩

/-- `remove_matched_peaks` honours the configured fragment-charge limit: every peak it removes is the most intense peak
    of the window of a theoretical fragment at a charge `1 ≤ charge < max_fragment_charge(self.max_fragment_charge,
    psm.charge)`, the range `score_candidate` and the preliminary count use. A peak sitting only on a higher-charge
    position of the previous PSM is not removed, as it would be under the bound `psm.charge.max(2)`. -/
theorem removeMatched_only_matched (E : Env α β) (ftol : Tol α) (mfcCfg : Option Nat) (info : PepInfo α)
    (peaks : Array (Peak α)) (pep z : Nat)
    (hs : Sage.C03.SortedArr (peaks.map (·.mass))) (hnn : ∀ p ∈ peaks.toList, E.ofNat 0 ≤ p.intensity)
    (p : Peak α) (hp : p ∈ peaks.toList) (hgone : p ∉ (removeMatched E ftol mfcCfg info peaks pep z).toList) :
    ∃ f : Sage.C04.FZ α,
      (∃ ks ∈ info.series pep, f.kind = ks.1 ∧ ks.2[f.idx]? = some f.ion) ∧
      1 ≤ f.charge ∧ f.charge < Sage.C04.maxFragmentCharge mfcCfg z ∧ f.charge < max z 2 ∧
      (∀ c, mfcCfg = some c → 1 ≤ c → f.charge ≤ c) ∧
      E.add (Sage.C04.tolBounds E ftol (Sage.C04.mzOf E f)).1 (E.ofNat 0) ≤ p.mass ∧
      p.mass ≤ E.add (Sage.C04.tolBounds E ftol (Sage.C04.mzOf E f)).2 (E.ofNat 0) ∧
      ∀ q' ∈ peaks.toList, E.add (Sage.C04.tolBounds E ftol (Sage.C04.mzOf E f)).1 (E.ofNat 0) ≤ q'.mass →
        q'.mass ≤ E.add (Sage.C04.tolBounds E ftol (Sage.C04.mzOf E f)).2 (E.ofNat 0) → q'.intensity ≤ p.intensity := by
  obtain ⟨_, hmem, _, hsel⟩ := removeMatched_spec E ftol mfcCfg info peaks pep z hs hnn
  have hnot := fun h => hgone ((hmem p).mpr ⟨hp, h⟩)
  by_contra hcon
  apply hnot
  intro f hf q hq heq
  apply hcon
  obtain ⟨h1, h2, ks, hks, hk, hion⟩ := mem_fragCharges _ _ f hf
  obtain ⟨_, hlo, hhi, hmax, _⟩ := hsel f hf q hq
  have hle := maxFragmentCharge_le mfcCfg z
  refine ⟨f, ⟨ks, hks, hk, hion⟩, h1, h2, Nat.lt_of_lt_of_le h2 hle.1,
    fun c hc hc1 => Nat.le_of_lt_succ (Nat.lt_of_lt_of_le h2 (hle.2 c hc hc1)), heq.1 ▸ hlo, heq.1 ▸ hhi, ?_⟩
  intro q' hq' a b
  rw [← heq.2]
  exact hmax q' hq' a b

end removal

/-! `Scorer::score` on concrete data cannot be evaluated by the kernel (`Array.map` inside C04's `select` is compiled by
well-founded recursion), so the instances below show that every hypothesis of the search-level theorems is satisfiable
on the toy index, and the concrete candidate, window and counter values those theorems talk about. -/

def exCfgChim : Cfg Nat := { exCfg with chimera := true, reportPsms := 3 }
def exCfgWide : Cfg Nat := { exCfg with wideWindow := true, defaultIsoWin := .da 0 3 }
/-- hypotheses of `search_chimera_rounds` / `search_chimera_best` / `search_in_window_all` / `label_spec` -/
example : exCfgChim.chimera = true ∧ TotalPre (fun (x y : Nat) => decide (x ≤ y)) ∧
    (#[false, true, false, true] : Array Bool).size = exDb.masses.size :=
  ⟨rfl, ⟨fun x y => by simp only [decide_eq_true_eq]; exact Nat.le_total x y,
    fun x y z => by simp only [decide_eq_true_eq]; exact Nat.le_trans⟩, rfl⟩
/-- `chimeraRun_rounds` on the toy run: after the PSMs for peptides 2 and 7 the residual "spectrum" is `[7, 2]` and the
    head of the score vector there is peptide 0 with hyperscore 5, the third PSM -/
example : residual (fun (q : List Nat) (f : Psm Int) => f.pep :: q) []
      ((chimeraLoop (fun (x y : Int) => decide (x ≤ y)) (· - ·) 0 exChimScore (fun q f => f.pep :: q) 2 3 exPrelim 3 [] []).take 2) = [7, 2] ∧
    ((scoreVector (fun (x y : Int) => decide (x ≤ y)) (exChimScore [7, 2]) 2 exPrelim).map fun c => (c.pre.peptide, c.hs)) =
      [(0, 5), (9, -14)] := by decide +kernel
/-- wide-window mode: the isolation window `Da(0, 3)` is scaled by the charge: `[100, 106]` at charge 2 around mass 100,
    `[150, 159]` at charge 3 around mass 150; peptide 3 (mass 110) is now outside at charge 2 as well -/
example : ((searched exEnv exCfgWide exPrec).map fun zt =>
      (zt.1, Sage.C04.tolBounds exEnv zt.2 (exEnv.mul (exEnv.sub exPrec.mz exEnv.proton) (exEnv.ofNat zt.1)))) =
    [(2, (100, 106)), (3, (150, 159))] ∧ exCfgWide.wideWindow = true := by decide +kernel
example : (initialHits exEnv exDb exCfgWide exPeaks exPrec).prelim.toList.filter PreScore.pos =
    [⟨2, 0, 2, 0⟩, ⟨1, 1, 2, 0⟩, ⟨1, 2, 2, 0⟩] := by decide +kernel
/-- `scored_exact`: three slots with a positive count, one empty slot -/
example : (initialHits exEnv exDb exCfg exPeaks exPrec).scored = 3 ∧
    ((allRaw exEnv exDb exCfg exPeaks exPrec).filter PreScore.pos).length = 3 ∧
    (allRaw exEnv exDb exCfg exPeaks exPrec).length = 4 := by
  rw [exAllRaw]
  exact ⟨exInitialHits.2, rfl, rfl⟩
/-- labels: entry 1 is a decoy, entry 0 a target, index 2 would be out of bounds -/
example : labelAt #[false, true] 1 = some (-1) ∧ labelAt #[false, true] 0 = some 1 ∧ labelAt #[false, true] 2 = none := by decide +kernel
/-- hypotheses of `removeMatched_spec` on the toy spectrum, and a matched window: the first b ion (20) of peptide 0 at
    charge 1 has the window [20, 20], which holds the peak of mass 20 -/
example : Sage.C03.SortedArr (exPeaks.toArray.map (·.mass)) ∧ (∀ p ∈ exPeaks.toArray.toList, exEnv.ofNat 0 ≤ p.intensity) ∧
    (Sage.C04.fragCharges (exInfo.series 0) (Sage.C04.maxFragmentCharge none 2)).map
      (fun f => (Sage.C04.tolBounds exEnv (.da 0 0) (Sage.C04.mzOf exEnv f))) = [(20, 20), (30, 30)] := by
  refine ⟨?_, fun p _ => Nat.zero_le _, by decide +kernel⟩
  rw [List.map_toArray]
  exact Sage.C03.sortedAdj_sound _ (by decide +kernel)

/-- the configured limit is tighter than the precursor charge: with `max_fragment_charge = Some(1)` and a 3+ precursor
    only fragment charge 1 is used (`1..2`), whereas `psm.charge.max(2) = 3` would also strip charge-2 positions -/
example : Sage.C04.maxFragmentCharge (some 1) 3 = 2 ∧ max 3 2 = 3 ∧
    ((Sage.C04.fragCharges (exInfo.series 0) (Sage.C04.maxFragmentCharge (some 1) 3)).map fun f => (f.ion, f.charge)) =
      [(20, 1), (30, 1)] ∧
    ((Sage.C04.fragCharges (exInfo.series 0) (max 3 2)).map fun f => (f.ion, f.charge)) =
      [(20, 1), (20, 2), (30, 1), (30, 2)] := by decide +kernel

end Sage.C02
