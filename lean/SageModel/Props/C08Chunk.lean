import SageModel.Props.C08

/-!
# C08 — the chunked prefilter build (`Runner::prefilter_peptides`)

`reorder_peptides` is applied there to a concatenation, in arbitrary order (a `HashSet` iteration), of per-chunk
databases. Its result does not depend on the order of its input, so the database is the one of the model
(`prefilterBuild`, which concatenates in chunk order), and a target and a decoy with the same key that come from
different chunks are merged into ONE entry. Also here: a FASTA, or a chunk, without any digest.
-/

namespace Sage.C08

section
variable {α : Type} [LinearOrder α]

/-- `reorder_peptides` is a function of the MULTISET of its input (of less: `reorder_set_congr`). -/
theorem reorder_perm {l l' : List (DbPep α)} (h : l.Perm l') : reorder l = reorder l' :=
  reorder_congr (EntryOf.congr fun _ => h.mem_iff)

/-- non-vacuity: `Ex.l` reversed is a different list with the same database -/
example : Ex.l.reverse ≠ Ex.l ∧ reorder Ex.l.reverse = reorder Ex.l :=
  ⟨by decide, reorder_perm (List.reverse_perm _)⟩

/-- "No two entries with the same sequence and modifications", spelled out field by field: after
`reorder_peptides`, whatever masses the elements carry and from however many builds they come. (Before the repair
this needed equal masses: a generated decoy and the mirror-image target of another chunk, whose f32 sums differ in
the last bit, both survived.) -/
theorem no_two_entries_same_form (l : List (DbPep α)) :
    (reorder l).Pairwise (fun a b =>
      ¬ (a.core.sequence = b.core.sequence ∧ a.core.mods = b.core.mods ∧ a.core.nterm = b.core.nterm ∧
         a.core.cterm = b.core.cterm)) :=
  (reorder_keyNe l).imp fun h ⟨e1, e2, e3, e4⟩ => h (Prod.ext e1 (Prod.ext e2 (Prod.ext e3 e4)))

/-- non-vacuity: a target `GK` of mass 203 and a decoy `GK` of mass 204 (one ulp apart, as it were): ONE entry,
    a target, with the smaller mass and the proteins of both -/
example : (reorder [Ex.mk 204 none true .internal [[80, 49]], Ex.mk 203 none false .nterm [[80, 50]]]).map
    (fun e => (e.core.mono, e.decoy, e.proteins)) = [(203, false, [[80, 49], [80, 50]])] := by
  rw [reorder_of_sorted (by decide +kernel) (d := [Ex.mk 203 none false .nterm [[80, 49], [80, 50]]])
    (by decide +kernel) (by decide +kernel), List.map_singleton,
    finishProteins_eq (ps := [[80, 49], [80, 50]]) (by decide +kernel) (by decide +kernel)]
  rfl

/-- C07's clause for a merged database: if every decoy form of the input whose residue sequence is also that of
some target form has a target TWIN with the same (sequence, modifications, nterm, cterm), no decoy entry of the
database has the sequence of a target entry. The twin hypothesis holds in the chunked build when nothing is dropped
and no protein-terminal modification is configured (a mirror-image target carries every placement its reversed
decoy carries); with `[` / `]` modifications or a dropped subset it can fail, and the clause with it, as coded. -/
theorem no_decoy_with_target_sequence (l : List (DbPep α))
    (twin : ∀ d ∈ l, d.decoy = true → ∀ t ∈ l, t.decoy = false → t.core.sequence = d.core.sequence →
      ∃ t2 ∈ l, t2.decoy = false ∧ keyOf t2 = keyOf d) :
    ∀ e ∈ reorder l, e.decoy = true → ∀ e' ∈ reorder l, e'.decoy = false →
      e'.core.sequence ≠ e.core.sequence := by
  intro e he hdec e' he' htar hseq
  obtain ⟨⟨d, hd, hkd⟩, -, hdecoy, -⟩ := (mem_reorder_iff.1 he).1
  obtain ⟨-, -, hdecoy', -⟩ := (mem_reorder_iff.1 he').1
  have hall := hdecoy.1 hdec
  obtain ⟨t, ht, hkt, htd⟩ : ∃ t ∈ l, keyOf t = keyOf e' ∧ t.decoy = false := by
    by_contra hn
    exact Bool.false_ne_true (htar.symm.trans
      (hdecoy'.2 fun p hp hk => eq_true_of_ne_false fun hpd => hn ⟨p, hp, hk, hpd⟩))
  have hseqt : t.core.sequence = d.core.sequence :=
    (congrArg Prod.fst hkt).trans (hseq.trans (congrArg Prod.fst hkd).symm)
  obtain ⟨t2, ht2, ht2d, hk2⟩ := twin d hd (hall d hd hkd) t ht htd hseqt
  exact Bool.false_ne_true (ht2d.symm.trans (hall t2 ht2 (hk2.trans hkd)))

/-- non-vacuity: in `[decoy GK (P1), target GK (P2)]` the decoy has its target twin; the database has no decoy at all -/
example : ∀ e ∈ reorder [Ex.mk 204 none true .internal [[80, 49]], Ex.mk 203 none false .nterm [[80, 50]]],
    e.decoy = true → ∀ e' ∈ reorder [Ex.mk 204 none true .internal [[80, 49]], Ex.mk 203 none false .nterm [[80, 50]]],
    e'.decoy = false → e'.core.sequence ≠ e.core.sequence := by
  apply no_decoy_with_target_sequence
  intro d hd hdd _ _ _ _
  simp only [List.mem_cons, List.not_mem_nil, or_false] at hd
  rcases hd with rfl | rfl
  · exact ⟨_, List.mem_cons_of_mem _ List.mem_cons_self, rfl, rfl⟩
  · exact (Bool.false_ne_true hdd).elim

/-- "Whatever the interleaving", for the chunked prefilter build: the order in which the kept peptides of the
chunks are concatenated (a `HashSet` iteration order in the code) is irrelevant; every arrangement `s` of them
gives the database the model computes. -/
theorem prefilter_order_free (seed : Nat) (drop : Bool) (dbs : List (List (DbPep α))) (s : List (DbPep α))
    (h : s.Perm (prefilterConcat seed drop dbs)) : reorder s = reorder (prefilterConcat seed drop dbs) :=
  reorder_perm h

/-- non-vacuity: two "chunks" holding the elements of `Ex.l` (a target `GK` in one, a decoy `GK` in the other),
    concatenated in the opposite order -/
example : reorder (prefilterConcat 0 false [[Ex.mk 203 none true .internal [[80, 49], [80, 50]]],
      [Ex.mk 203 none false .nterm [[80, 50]], Ex.mk 245 (some 42) true .nterm [[81]]]]) = reorder Ex.l := by
  apply reorder_perm
  simp only [prefilterConcat, List.zipIdx, Ex.l]
  exact List.Perm.swap _ _ _

/-- "A decoy only if every source is a decoy", across chunks: if the concatenation contains a target and a decoy
with the same (sequence, modifications, nterm, cterm) (the generated decoy of one chunk and the mirror-image target
of another, WHATEVER their two masses), the database has an entry with that key (only one: `db_sorted_unique`)
that is a TARGET listing the proteins of both. -/
theorem cross_chunk_merge (l : List (DbPep α)) (t d : DbPep α) (ht : t ∈ l) (hd : d ∈ l)
    (hk : keyOf d = keyOf t) (htarget : t.decoy = false) :
    ∃ e ∈ reorder l, keyOf e = keyOf t ∧ e.decoy = false ∧
      (∀ a ∈ t.proteins, a ∈ e.proteins) ∧ (∀ a ∈ d.proteins, a ∈ e.proteins) := by
  obtain ⟨e, he, hke⟩ := (db_entries_exact l).2 t ht
  obtain ⟨-, hp, hdec, -⟩ := (mem_reorder_iff.1 he).1
  exact ⟨e, he, hke,
    eq_false_of_ne_true fun hde => Bool.false_ne_true (htarget.symm.trans (hdec.1 hde t ht hke.symm)),
    fun a ha => (hp a).2 ⟨t, ht, hke.symm, ha⟩, fun a ha => (hp a).2 ⟨d, hd, hk.trans hke.symm, ha⟩⟩

/-- non-vacuity: in `Ex.l` the target `GK` (proteins `P2`) and the decoy `GK` (proteins `P1, P2`) have the same key -/
example : ∃ t ∈ Ex.l, ∃ d ∈ Ex.l, keyOf d = keyOf t ∧ t.decoy = false ∧ d.decoy = true :=
  ⟨Ex.mk 203 none false .nterm [[80, 50]], List.mem_cons_self,
   Ex.mk 203 none true .internal [[80, 49], [80, 50]], List.mem_cons_of_mem _ List.mem_cons_self, rfl, rfl, rfl⟩

theorem prefilterConcat_nodrop {α : Type} (seed : Nat) (dbs : List (List (DbPep α))) :
    prefilterConcat seed false dbs = dbs.flatten := by
  have h : ∀ l : List (DbPep α), (l.zipIdx).filterMap (fun pi => some pi.1) = l := fun l =>
    (congrFun (List.filterMap_eq_map (f := Prod.fst)) _).trans (List.zipIdx_map_fst 0 l)
  simp only [prefilterConcat, Bool.false_and, Bool.false_eq_true, if_false, h, List.flatMap_def]
  exact congrArg List.flatten (List.zipIdx_map_fst 0 dbs)

/-- In the chunked prefilter build without the subset rule (`drop = false`) a chunk without any peptide contributes
nothing: the result is the build of the other chunks. (The subset rule of op `chunkdb` reads the chunk index, so
with it an empty chunk shifts what is kept.) -/
theorem empty_chunk_irrelevant (seed : Nat) (a b : List (List (DbPep α))) :
    reorder (prefilterConcat seed false (a ++ [] :: b)) = reorder (prefilterConcat seed false (a ++ b)) := by
  rw [prefilterConcat_nodrop, prefilterConcat_nodrop, List.flatten_append, List.flatten_cons, List.nil_append,
    List.flatten_append]

/-- non-vacuity: `Ex.l` as one chunk, an empty chunk before and after it -/
example : reorder (prefilterConcat 3 false ([[]] ++ [] :: [Ex.l])) = reorder Ex.l := by
  rw [empty_chunk_irrelevant, prefilterConcat_nodrop]; rfl

end

section nodigest

/-- the guarded `group_digests`; it used to index `digests[0]` and panic -/
theorem groupDigests_nil : groupDigests [] = some [] := by
  simp only [groupDigests, sortDigests, List.mergeSort_nil]

theorem reorder_nil {α : Type} [LT α] [DecidableLT α] : reorder ([] : List (DbPep α)) = [] := by
  simp only [reorder, List.mergeSort_nil, dedupBy, List.map_nil]

variable {α : Type} [Add α] [OfNat α 0] [BEq α] [LE α] [DecidableLE α] [LT α] [DecidableLT α]

/-- A FASTA none of whose proteins yields a peptide (all below `min_len`, only tagged records while decoys are
generated, no record at all) builds the EMPTY database; it does not fail. -/
theorem buildDb_no_digest (cfg : Cfg α) (t : List (C05.Seq × C05.Seq))
    (h : fastaDigest cfg.par cfg.tag cfg.gen t = []) : buildDb cfg t = some [] := by
  unfold buildDb buildWith
  rw [h, groupDigests_nil]
  exact congrArg some reorder_nil

/-- `Parameters::digest` never fails in the model: every FASTA has a database. -/
theorem buildDb_total (cfg : Cfg α) (t : List (C05.Seq × C05.Seq)) : (buildDb cfg t).isSome = true :=
  buildWith_isSome cfg t id

/-- non-vacuity: one protein `AAK` with `min_len = 5` has no digest; the database is empty -/
example : buildDb ({ Ex.cfg with par := { Ex.par with minLen := 5 } } : Cfg Nat) [([80, 49], [65, 65, 75])] = some [] :=
  buildDb_no_digest _ _ (by decide +kernel)

end nodigest

end Sage.C08
