import SageModel.Lemmas.C07

/-!
# C07 — Decoys mirror their targets one-to-one and never collide with a target

Property text: *When decoys are generated, every decoy is the reversal of exactly one target with the
first and last residue kept in place, carrying the same modifications on the mirrored residues and
the same terminal modifications, mass, proteins and missed-cleavage count, and reversing a decoy
gives back its target. No decoy has the sequence of any target, and every target has its decoy
unless that reversed sequence is itself a target sequence. When decoys come from the FASTA instead,
exactly the peptides of decoy-tagged proteins are labelled decoy; reported protein names of
generated decoys are the target names prefixed with the decoy tag, all others are reported
unchanged.*

All theorems are about the definitions of `SageModel/Model/C07.lean` (the model of
`Peptide::reverse`, `Peptide::proteins`, `Fasta::digest`, `group_digests`, `Parameters::digest`,
`reorder_peptides`, composed with the C05 / C06 models), for every FASTA, every enzyme and
modification configuration, every length. Database theorems are stated at exact rationals (they
reuse C06's theorems on the generated forms and their masses); none of them depends on arithmetic.
-/

namespace Sage.C07

/-- **C07.reverse_eq_mirror** — the model of `Peptide::reverse` is the reversal the specification
    (and the driver's check of sage's output) uses: first and last kept, middle reversed. -/
theorem reverse_eq_mirror {α : Type} (p : Pep α) (h : WF p) : reverse p = mirror p := by
  unfold mirror
  unfold WF at h
  by_cases hn : p.sequence.length - 1 > 1
  · have h2 : 2 ≤ p.sequence.length := Nat.le_of_lt (Nat.add_lt_of_lt_sub hn)
    rw [reverse_of_gt p hn, revSlice_eq_mirrorList _ h2, ← h, revSlice_eq_mirrorList _ (h ▸ h2)]
  · have h3 : p.sequence.length ≤ 3 := Nat.le_succ_of_le (Nat.le_add_of_sub_le (Nat.le_of_not_lt hn))
    rw [reverse_of_le p hn, mirrorList_short _ h3, mirrorList_short _ (h ▸ h3)]

theorem reverse_wf {α : Type} (p : Pep α) (h : WF p) : WF (reverse p) := by
  rw [reverse_eq_mirror p h]
  exact (mirrorList_length _).trans (h.trans (mirrorList_length _).symm)

/-- **C07.reverse_involutive** — reversing twice gives the peptide back (so reversing a decoy gives
    back its target), for every peptide of every length with one modification slot per residue. -/
theorem reverse_involutive {α : Type} (p : Pep α) (h : WF p) : reverse (reverse p) = p := by
  rw [reverse_eq_mirror _ (reverse_wf p h), reverse_eq_mirror p h]
  cases p
  simp [mirror, mirrorList_mirrorList]

/-- **C07.reverse_ends_fixed** — the first and the last residue (and their modification slots) stay
    in place. -/
theorem reverse_ends_fixed {α : Type} (p : Pep α) (h : WF p) :
    (reverse p).sequence[0]? = p.sequence[0]? ∧
    (reverse p).sequence[p.sequence.length - 1]? = p.sequence[p.sequence.length - 1]? ∧
    (reverse p).mods[0]? = p.mods[0]? ∧
    (reverse p).mods[p.sequence.length - 1]? = p.mods[p.sequence.length - 1]? := by
  rw [reverse_eq_mirror p h]
  refine ⟨mirrorList_getElem?_zero _, mirrorList_getElem?_last _, mirrorList_getElem?_zero _, ?_⟩
  unfold WF at h
  rw [← h]
  exact mirrorList_getElem?_last _

/-- **C07.reverse_mirrors** — residue `i` of the reversal is residue `n−1−i` of the original, and it
    carries the modification of that residue, for every `1 ≤ i ≤ n−2`. -/
theorem reverse_mirrors {α : Type} (p : Pep α) (h : WF p) (i : Nat) (h1 : 1 ≤ i) (h2 : i + 2 ≤ p.sequence.length) :
    (reverse p).sequence[i]? = p.sequence[p.sequence.length - 1 - i]? ∧
    (reverse p).mods[i]? = p.mods[p.sequence.length - 1 - i]? := by
  rw [reverse_eq_mirror p h]
  refine ⟨mirrorList_getElem?_mid _ i h1 h2, ?_⟩
  unfold WF at h
  rw [← h] at h2 ⊢
  exact mirrorList_getElem?_mid _ i h1 h2

/-- **C07.reverse_preserves** — terminal modifications, mass, proteins, missed cleavages (and the
    other bookkeeping fields) are unchanged, lengths are unchanged, the decoy flag is flipped. -/
theorem reverse_preserves {α : Type} (p : Pep α) (h : WF p) :
    (reverse p).nterm = p.nterm ∧ (reverse p).cterm = p.cterm ∧ (reverse p).mono = p.mono ∧
    (reverse p).proteins = p.proteins ∧ (reverse p).mc = p.mc ∧ (reverse p).semi = p.semi ∧
    (reverse p).position = p.position ∧ (reverse p).decoy = !p.decoy ∧
    (reverse p).sequence.length = p.sequence.length ∧ (reverse p).mods.length = p.mods.length := by
  rw [reverse_eq_mirror p h]
  exact ⟨rfl, rfl, rfl, rfl, rfl, rfl, rfl, rfl, mirrorList_length _, mirrorList_length _⟩

/-- **C07.reverse_perm** — for EVERY peptide (no well-formedness needed) the decoy's residues are a permutation of
the target's, and so are its modification slots: a decoy has its target's amino-acid composition (hence the same
residue-mass sum, whatever the summation order costs in rounding) and the same multiset of site modifications. -/
theorem reverse_perm {α : Type} (p : Pep α) :
    (reverse p).sequence.Perm p.sequence ∧ (reverse p).mods.Perm p.mods := by
  by_cases hn : p.sequence.length - 1 > 1
  · rw [reverse_of_gt p hn]
    exact ⟨revSlice_perm _ _ (Nat.le_of_lt hn), revSlice_perm _ _ (Nat.le_of_lt hn)⟩
  · rw [reverse_of_le p hn]
    exact ⟨List.Perm.refl _, List.Perm.refl _⟩

/-- **C07.reverse_short** — for peptides of length ≤ 3 `reverse` changes only the flag (their decoy
    has the target's sequence and is therefore removed by the collision filter). -/
theorem reverse_short {α : Type} (p : Pep α) (h : WF p) (hs : p.sequence.length ≤ 3) :
    reverse p = { p with decoy := !p.decoy } := by
  rw [reverse_eq_mirror p h, mirror, mirrorList_short _ hs, mirrorList_short _ (h ▸ hs)]

/-- `PEPTIDEK` with modifications on `E`(1) and `D`(5) and an N-terminal modification -/
def samplePep : Pep Nat :=
  ⟨false, [80, 69, 80, 84, 73, 68, 69, 75], [0, 7, 0, 0, 0, 9, 0, 0], some 42, none, 1000, 0, false, .internal, [[80, 49]]⟩

/-- non-vacuity: the decoy of `samplePep` is `PEDITPEK` with the modifications on the moved residues,
    and reversing it again gives the target back. -/
example :
    WF samplePep ∧ (reverse samplePep).sequence = [80, 69, 68, 73, 84, 80, 69, 75] ∧
      (reverse samplePep).mods = [0, 0, 9, 0, 0, 0, 7, 0] ∧ (reverse samplePep).decoy = true ∧
      (reverse samplePep).nterm = some 42 ∧ reverse (reverse samplePep) = samplePep ∧
      reverse samplePep = mirror samplePep := by
  unfold WF; decide +kernel

/-- non-vacuity of `reverse_short`: `AGK` -/
example :
    reverse (⟨false, [65, 71, 75], [0, 5, 0], none, none, 1, 0, false, .full, []⟩ : Pep Nat) =
      ⟨true, [65, 71, 75], [0, 5, 0], none, none, 1, 0, false, .full, []⟩ := by decide +kernel

theorem mirror_proteins {α : Type} (p : Pep α) : (mirror p).proteins = p.proteins := rfl
theorem mirror_sequence {α : Type} (p : Pep α) : (mirror p).sequence = mirrorList p.sequence := rfl
theorem mirror_decoy {α : Type} (p : Pep α) : (mirror p).decoy = !p.decoy := rfl

theorem keyOf_sequence {α : Type} {a b : Pep α} (h : keyOf a = keyOf b) : a.sequence = b.sequence :=
  congrArg (fun k => k.2.1) h

section forms
variable {cfg : Cfg Rat} {recs : List (Bytes × Bytes)} {groups : List Group}
  (hg : groupDigests (fastaDigest cfg.par cfg.tag cfg.gen recs) = some groups)
include hg

theorem gen_groups (hgen : cfg.gen = true) : ∀ g ∈ groups, g.ref.decoy = false := by
  intro g hgm
  obtain ⟨r, _, c, _, hd, h4⟩ := mem_fastaDigest.mp ((groupDigests_spec hg).1 g hgm).1
  rw [hd]; exact h4 hgen

theorem target_form {s : Pep Rat} (hs : s ∈ buildForms cfg groups) (hsd : s.decoy = false) :
    ∃ g ∈ groups, s ∈ groupForms cfg g := by
  obtain ⟨g, hgm, f, hf, hem⟩ := mem_buildForms.mp hs
  rcases (mem_emit.mp hem).1 with rfl | ⟨hgen, rfl⟩
  · exact ⟨g, hgm, hf⟩
  · obtain ⟨_, hdec, _, _, hwf, _⟩ := mem_groupForms hf
    rw [reverse_eq_mirror f hwf, mirror_decoy, hdec, gen_groups hg hgen g hgm] at hsd
    cases hsd

theorem form_decoy_iff {s : Pep Rat} (hs : s ∈ buildForms cfg groups) :
    s.decoy = true ↔ s.sequence ∉ targetSet groups := by
  constructor
  · obtain ⟨g, _, f, _, hem⟩ := mem_buildForms.mp hs
    exact (mem_emit.mp hem).2
  · intro hn
    by_contra hd
    rw [Bool.not_eq_true] at hd
    obtain ⟨g, hgm, hf⟩ := target_form hg hs hd
    obtain ⟨hseq, hdec, _⟩ := mem_groupForms hf
    exact hn (mem_targetSet.mpr ⟨g, hgm, hdec ▸ hd, hseq.symm⟩)

theorem entry_decoy_iff {e : Pep Rat}
    (he : e ∈ mergeFuel (buildForms cfg groups).length (buildForms cfg groups)) :
    e.decoy = true ↔ e.sequence ∉ targetSet groups := by
  rw [mergeFuel_decoy he]
  obtain ⟨s0, hs0, hk0⟩ := mergeFuel_source he
  constructor
  · intro h
    rw [← keyOf_sequence hk0, ← form_decoy_iff hg hs0]
    exact h s0 hs0 hk0
  · intro hn s hs hk
    rw [form_decoy_iff hg hs, keyOf_sequence hk]
    exact hn

theorem entry_target_iff {e : Pep Rat}
    (he : e ∈ mergeFuel (buildForms cfg groups).length (buildForms cfg groups)) :
    e.decoy = false ↔ e.sequence ∈ targetSet groups := by
  rw [← Bool.not_eq_true, entry_decoy_iff hg he, Decidable.not_not]

theorem source_decoy {e s : Pep Rat}
    (he : e ∈ mergeFuel (buildForms cfg groups).length (buildForms cfg groups))
    (hs : s ∈ buildForms cfg groups) (hk : keyOf s = keyOf e) : s.decoy = e.decoy := by
  rw [Bool.eq_iff_iff, form_decoy_iff hg hs, entry_decoy_iff hg he, keyOf_sequence hk]

end forms

theorem decoy_iff {cfg : Cfg Rat} {recs : List (Bytes × Bytes)} {db : List (Pep Rat)}
    (h : digestRecs cfg recs = some db) :
    ∀ e ∈ db, (e.decoy = true ↔ e.sequence ∉ specTargets cfg.par cfg.tag recs) := by
  obtain ⟨groups, hg, rfl⟩ := digestRecs_some h
  intro e he
  obtain ⟨e', he', rfl⟩ := mem_reorder.mp he
  rw [← targetSet_iff hg]
  exact entry_decoy_iff (e := e') hg he'

/-- **C07.no_decoy_is_target** — no decoy entry of the database (generated or FASTA-supplied) has the
    residue sequence of any digest of an untagged FASTA record. -/
theorem no_decoy_is_target (cfg : Cfg Rat) (recs : List (Bytes × Bytes)) (db : List (Pep Rat))
    (h : digestRecs cfg recs = some db) :
    ∀ e ∈ db, e.decoy = true → e.sequence ∉ specTargets cfg.par cfg.tag recs :=
  fun e he => (decoy_iff h e he).mp

theorem emit_gen {T : List (List Nat)} {f : Pep Rat} (hwf : WF f) (hfd : f.decoy = false) :
    emit true T f = (if (mirror f).sequence ∈ T then [] else [mirror f]) ++ [f] := by
  unfold emit
  rw [reverse_eq_mirror f hwf, if_pos rfl, List.filter_cons, List.filter_cons, List.filter_nil, mirror_decoy, hfd]
  by_cases h : (mirror f).sequence ∈ T <;> simp [h]

theorem buildForms_eq (cfg : Cfg Rat) (groups : List Group) :
    buildForms cfg groups = (groups.flatMap (groupForms cfg)).flatMap (emit cfg.gen (targetSet groups)) := by
  unfold buildForms
  rw [List.flatMap_assoc]

section gen
variable {cfg : Cfg Rat} {recs : List (Bytes × Bytes)} {groups : List Group}
  (hg : groupDigests (fastaDigest cfg.par cfg.tag cfg.gen recs) = some groups) (hgen : cfg.gen = true)
include hg hgen

theorem mem_groupForms_gen {f : Pep Rat} (hf : f ∈ groups.flatMap (groupForms cfg)) :
    WF f ∧ f.decoy = false ∧ f.sequence ∈ targetSet groups := by
  obtain ⟨g, hgm, hfg⟩ := List.mem_flatMap.mp hf
  obtain ⟨hseq, hdec, _, _, hwf, _⟩ := mem_groupForms hfg
  have hgd := gen_groups hg hgen g hgm
  exact ⟨hwf, hdec.trans hgd, mem_targetSet.mpr ⟨g, hgm, hgd, hseq.symm⟩⟩

theorem mem_buildForms_gen {s : Pep Rat} :
    s ∈ buildForms cfg groups ↔ ∃ f ∈ groups.flatMap (groupForms cfg),
      s = f ∨ (s = mirror f ∧ (mirror f).sequence ∉ targetSet groups) := by
  rw [buildForms_eq, List.mem_flatMap]
  refine exists_congr fun f => and_congr_right fun hf => ?_
  obtain ⟨hwf, hfd, _⟩ := mem_groupForms_gen hg hgen hf
  rw [hgen, emit_gen hwf hfd]
  by_cases h : (mirror f).sequence ∈ targetSet groups <;> simp [h, or_comm]

/-- generated decoys: a decoy entry is merged from the mirror images, in the same order, of the forms its target
    entry is merged from -/
theorem class_mirror {t' d' : Pep Rat} (hk : keyOf d' = mirrorKey (keyOf t')) (htT : t'.sequence ∈ targetSet groups)
    (hdT : d'.sequence ∉ targetSet groups) :
    (buildForms cfg groups).filter (fun s => sameKey s d') =
      ((buildForms cfg groups).filter fun s => sameKey s t').map mirror := by
  rw [buildForms_eq, List.filter_flatMap, List.filter_flatMap, List.map_flatMap]
  refine List.flatMap_congr fun f hf => ?_
  obtain ⟨hwf, hfd, hfT⟩ := mem_groupForms_gen hg hgen hf
  -- `f` never has the decoy's key; its mirror image has it iff `f` has the target's, and never has the target's
  have h1 : sameKey f d' = false := (sameKey_false_iff _ _).mpr fun h => hdT (keyOf_sequence h ▸ hfT)
  have h2 : sameKey (mirror f) d' = sameKey f t' := by
    rw [Bool.eq_iff_iff, sameKey_iff, sameKey_iff, keyOf_mirror, hk]
    exact ⟨fun h => mirrorKey_inj h, fun h => h ▸ rfl⟩
  rw [hgen, emit_gen hwf hfd]
  by_cases hin : (mirror f).sequence ∈ targetSet groups
  · have h3 : sameKey f t' = false := by
      rw [← h2, sameKey_false_iff]; exact fun h => hdT (keyOf_sequence h ▸ hin)
    simp [hin, h1, h3]
  · have h3 : sameKey (mirror f) t' = false :=
      (sameKey_false_iff _ _).mpr fun h => hin (keyOf_sequence h ▸ htT)
    cases h4 : sameKey f t' <;> simp [hin, h1, h2, h3, h4]

end gen

/-- generated decoys: a decoy entry and the target entry with the mirrored key list the same proteins in
    the same order already before sorting -/
theorem pair_proteins_list {cfg : Cfg Rat} {recs : List (Bytes × Bytes)} {groups : List Group}
    (hg : groupDigests (fastaDigest cfg.par cfg.tag cfg.gen recs) = some groups) (hgen : cfg.gen = true)
    {t' d' : Pep Rat}
    (ht : t' ∈ mergeFuel (buildForms cfg groups).length (buildForms cfg groups))
    (hd : d' ∈ mergeFuel (buildForms cfg groups).length (buildForms cfg groups))
    (hk : keyOf d' = mirrorKey (keyOf t')) (htT : t'.sequence ∈ targetSet groups)
    (hdT : d'.sequence ∉ targetSet groups) : d'.proteins = t'.proteins := by
  rw [mergeFuel_proteins hd, mergeFuel_proteins ht, class_mirror hg hgen hk htT hdT, List.flatMap_map]
  rfl

/-- generated decoys: an entry whose key is the mirror image of another entry's key, one on each side
    of the target set, lists the same proteins -/
theorem pair_proteins {cfg : Cfg Rat} {recs : List (Bytes × Bytes)} {groups : List Group}
    (hg : groupDigests (fastaDigest cfg.par cfg.tag cfg.gen recs) = some groups) (hgen : cfg.gen = true)
    {t' d' : Pep Rat}
    (ht : t' ∈ mergeFuel (buildForms cfg groups).length (buildForms cfg groups))
    (hd : d' ∈ mergeFuel (buildForms cfg groups).length (buildForms cfg groups))
    (hk : keyOf d' = mirrorKey (keyOf t')) (htT : t'.sequence ∈ targetSet groups)
    (hdT : d'.sequence ∉ targetSet groups) (x : Bytes) : x ∈ d'.proteins ↔ x ∈ t'.proteins := by
  rw [pair_proteins_list hg hgen ht hd hk htT hdT]

/-- generated decoys: such a pair has the same missed-cleavage count (`reverse` keeps the count, and the
    merge takes the minimum over the class of key-equal forms) -/
theorem pair_mc {cfg : Cfg Rat} {recs : List (Bytes × Bytes)} {groups : List Group}
    (hg : groupDigests (fastaDigest cfg.par cfg.tag cfg.gen recs) = some groups) (hgen : cfg.gen = true)
    {t' d' : Pep Rat}
    (ht : t' ∈ mergeFuel (buildForms cfg groups).length (buildForms cfg groups))
    (hd : d' ∈ mergeFuel (buildForms cfg groups).length (buildForms cfg groups))
    (hk : keyOf d' = mirrorKey (keyOf t')) (htT : t'.sequence ∈ targetSet groups)
    (hdT : d'.sequence ∉ targetSet groups) : d'.mc = t'.mc := by
  have hc := class_mirror hg hgen hk htT hdT
  obtain ⟨p, rs, hct, rfl⟩ := mem_mergeFuel ht
  obtain ⟨q, qs, hcd, rfl⟩ := mem_mergeFuel hd
  rw [hct, hcd, List.map_cons] at hc
  obtain ⟨rfl, rfl⟩ := List.cons.inj hc
  rw [(absorbAll_spec _ _).2.2.2, (absorbAll_spec _ _).2.2.2, List.map_map]
  rfl

/-- **C07.decoy_reverses_unique_target** — with generated decoys every decoy entry is the reversal of
    exactly one target entry of the database: that target has the mirrored sequence and modification
    vector (so reversing the decoy gives it back), the same terminal modifications, mass, protein list
    (equal as lists, same order) and missed-cleavage count, and it is the only entry with that key. -/
theorem decoy_reverses_unique_target (cfg : Cfg Rat) (recs : List (Bytes × Bytes)) (db : List (Pep Rat))
    (h : digestRecs cfg recs = some db) (hgen : cfg.gen = true) :
    ∀ d ∈ db, d.decoy = true →
      ∃ t ∈ db, t.decoy = false ∧ keyOf t = keyOf (mirror d) ∧ keyOf d = keyOf (mirror t) ∧
        d.proteins = t.proteins ∧ d.mc = t.mc ∧ ∀ t2 ∈ db, keyOf t2 = keyOf t → t2 = t := by
  obtain ⟨groups, hg, rfl⟩ := digestRecs_some h
  intro d hd hdd
  obtain ⟨d', hd', rfl⟩ := mem_reorder.mp hd
  have hdT : d'.sequence ∉ targetSet groups := (entry_decoy_iff hg hd').mp hdd
  -- a source of the decoy entry is the mirror image of an in-range form `f`; `t'` is the entry with the key of `f`
  obtain ⟨s0, hs0, hk0⟩ := mergeFuel_source hd'
  obtain ⟨f, hf, rfl | ⟨rfl, _⟩⟩ := (mem_buildForms_gen hg hgen).mp hs0
  · exact absurd (keyOf_sequence hk0 ▸ (mem_groupForms_gen hg hgen hf).2.2) hdT
  obtain ⟨t', ht', hkt⟩ := mergeFuel_complete ((mem_buildForms_gen hg hgen).mpr ⟨f, hf, Or.inl rfl⟩)
  have htT : t'.sequence ∈ targetSet groups := keyOf_sequence hkt ▸ (mem_groupForms_gen hg hgen hf).2.2
  have hkd : keyOf d' = mirrorKey (keyOf t') := by rw [← hk0, keyOf_mirror, hkt]
  refine ⟨finishProteins t', mem_reorder.mpr ⟨t', ht', rfl⟩, ?_, ?_, hkd,
    congrArg sortDedup (pair_proteins_list hg hgen ht' hd' hkd htT hdT),
    pair_mc (t' := t') (d' := d') hg hgen ht' hd' hkd htT hdT, ?_⟩
  · exact (entry_target_iff hg ht').mpr htT
  · show keyOf t' = mirrorKey (keyOf d')
    rw [hkd, mirrorKey_mirrorKey]
  · intro t2 ht2 hk2
    obtain ⟨t2', ht2', rfl⟩ := mem_reorder.mp ht2
    rw [mergeFuel_key_inj ht2' ht' hk2]

/-- **C07.pairing_complete** — with generated decoys every target entry has its decoy in the database
    (mirrored sequence and modifications, same termini, mass, proteins and missed-cleavage count,
    flagged decoy) unless the reversed sequence is itself a target digest sequence (palindromes,
    length ≤ 3, mirror pairs). -/
theorem pairing_complete (cfg : Cfg Rat) (recs : List (Bytes × Bytes)) (db : List (Pep Rat))
    (h : digestRecs cfg recs = some db) (hgen : cfg.gen = true) :
    ∀ t ∈ db, t.decoy = false → mirrorList t.sequence ∉ specTargets cfg.par cfg.tag recs →
      ∃ d ∈ db, d.decoy = true ∧ keyOf d = keyOf (mirror t) ∧ d.proteins = t.proteins ∧
        d.mc = t.mc := by
  obtain ⟨groups, hg, rfl⟩ := digestRecs_some h
  intro t ht htd hnot
  rw [← targetSet_iff hg] at hnot
  obtain ⟨t', ht', rfl⟩ := mem_reorder.mp ht
  have htT : t'.sequence ∈ targetSet groups := (entry_target_iff hg ht').mp htd
  -- a source of the target entry is an in-range form `s`; its mirror image is a form, `d'` is the entry with that key
  obtain ⟨s, hs, hks⟩ := mergeFuel_source ht'
  obtain ⟨f, hf, rfl | ⟨rfl, hfn⟩⟩ := (mem_buildForms_gen hg hgen).mp hs
  swap
  · exact absurd (keyOf_sequence hks ▸ htT) hfn
  have hmT : (mirror s).sequence ∉ targetSet groups := by rw [mirror_sequence, keyOf_sequence hks]; exact hnot
  obtain ⟨d', hd', hkd⟩ := mergeFuel_complete ((mem_buildForms_gen hg hgen).mpr ⟨s, hf, Or.inr ⟨rfl, hmT⟩⟩)
  have hkd' : keyOf d' = mirrorKey (keyOf t') := by rw [hkd, keyOf_mirror, hks]
  have hdT : d'.sequence ∉ targetSet groups := keyOf_sequence hkd ▸ hmT
  exact ⟨finishProteins d', mem_reorder.mpr ⟨d', hd', rfl⟩, (entry_decoy_iff hg hd').mpr hdT, hkd',
    congrArg sortDedup (pair_proteins_list hg hgen ht' hd' hkd' htT hdT),
    pair_mc (t' := t') (d' := d') hg hgen ht' hd' hkd' htT hdT⟩

/-- trypsin (KR, not before P), no missed cleavages, lengths 1..50 -/
def trypsin : C05.Params := ⟨0, 1, 50, some ⟨.cls [75, 82], some 80, true, false⟩⟩

/-- generated decoys (tag `rev_`), one variable modification (`M` +16), wide mass window -/
def cfgGen : Cfg Rat :=
  { tag := [114, 101, 118, 95], gen := true, par := trypsin, vars := [(.residue 77, 16)], statics := [],
    max := 1, lo := 0, hi := 100000, h2o := Sage.Gen.H2O, table := Sage.Gen.MONOISOTOPIC }

/-- `>P1 AGSMK·AGSGK·AK` and `>P2 AGSMK` -/
def recsGen : List (Bytes × Bytes) :=
  [([80, 49], [65, 71, 83, 77, 75, 65, 71, 83, 71, 75, 65, 75]), ([80, 50], [65, 71, 83, 77, 75])]

/-- non-vacuity of `no_decoy_is_target`, `decoy_reverses_unique_target`, `pairing_complete`: the shared
    peptide `AGSMK` (P1, P2) and its oxidised form have their decoys `AMSGK` / `AM[+16]SGK` (the
    modification travels with the `M`, the protein list is the target's); the palindrome `AGSGK` and the
    two-residue `AK` have none, because their reversal is a target sequence. -/
example :
    (digestRecs cfgGen recsGen).map (·.map (·.decoy)) = some [true, false, true, false, false, false] ∧
    (digestRecs cfgGen recsGen).map (·.map (·.sequence)) = some
      [[65, 77, 83, 71, 75], [65, 71, 83, 77, 75], [65, 77, 83, 71, 75], [65, 71, 83, 77, 75], [65, 75],
       [65, 71, 83, 71, 75]] ∧
    (digestRecs cfgGen recsGen).map (·.map fun e => e.mods.map (·.num)) = some
      [[0, 0, 0, 0, 0], [0, 0, 0, 0, 0], [0, 16, 0, 0, 0], [0, 0, 0, 16, 0], [0, 0], [0, 0, 0, 0, 0]] ∧
    (digestRecs cfgGen recsGen).map (·.map (·.proteins)) = some
      [[[80, 49], [80, 50]], [[80, 49], [80, 50]], [[80, 49], [80, 50]], [[80, 49], [80, 50]], [[80, 49]],
       [[80, 49]]] ∧
    (digestRecs cfgGen recsGen).map (·.map (·.mc)) = some [0, 0, 0, 0, 0, 0] ∧
    cfgGen.gen = true ∧
    specTargets cfgGen.par cfgGen.tag recsGen =
      [[65, 71, 83, 77, 75], [65, 71, 83, 71, 75], [65, 75], [65, 71, 83, 77, 75]] := by
  decide +kernel

theorem fasta_forms {cfg : Cfg Rat} {recs : List (Bytes × Bytes)} {groups : List Group}
    (hg : groupDigests (fastaDigest cfg.par cfg.tag cfg.gen recs) = some groups) (hgen : cfg.gen = false)
    {s : Pep Rat} (hs : s ∈ buildForms cfg groups) :
    s.proteins ≠ [] ∧ ∀ x ∈ s.proteins, C05.containsSub x cfg.tag = s.decoy := by
  obtain ⟨g, hgm, f, hf, hem⟩ := mem_buildForms.mp hs
  obtain ⟨_, hne, g2⟩ := (groupDigests_spec hg).1 g hgm
  obtain ⟨_, hdec, hprot, _⟩ := mem_groupForms hf
  obtain rfl | ⟨hc, _⟩ := (mem_emit.mp hem).1
  swap
  · rw [hgen] at hc; cases hc
  rw [hprot]
  refine ⟨hne, fun x hx => ?_⟩
  obtain ⟨d, hd, hsg, rfl⟩ := g2 x hx
  obtain ⟨r, _, c, _, rfl, _⟩ := mem_fastaDigest.mp hd
  rw [hdec, ← ((sameGroup_iff _ _).mp hsg).1]

theorem fasta_proteins {cfg : Cfg Rat} {recs : List (Bytes × Bytes)} {db : List (Pep Rat)}
    (h : digestRecs cfg recs = some db) (hgen : cfg.gen = false) :
    ∀ e ∈ db, e.proteins ≠ [] ∧ ∀ x ∈ e.proteins, C05.containsSub x cfg.tag = e.decoy := by
  obtain ⟨groups, hg, rfl⟩ := digestRecs_some h
  intro e he
  obtain ⟨e', he', rfl⟩ := mem_reorder.mp he
  have hmem := mem_finishProteins he'
  constructor
  · obtain ⟨s, hs, hk⟩ := mergeFuel_source he'
    obtain ⟨x, hx⟩ := List.exists_mem_of_ne_nil _ (fasta_forms hg hgen hs).1
    exact List.ne_nil_of_mem ((hmem x).mpr ⟨s, hs, hk, hx⟩)
  · intro x hx
    obtain ⟨s, hs, hk, hxs⟩ := (hmem x).mp hx
    rw [(fasta_forms hg hgen hs).2 x hxs]
    exact source_decoy (e := e') hg he' hs hk

/-- **C07.fasta_decoys** — when decoys come from the FASTA (`generate_decoys = false`) an entry of the
    database is labelled decoy exactly when all of its source proteins (there is at least one) carry
    the decoy tag. -/
theorem fasta_decoys (cfg : Cfg Rat) (recs : List (Bytes × Bytes)) (db : List (Pep Rat))
    (h : digestRecs cfg recs = some db) (hgen : cfg.gen = false) :
    ∀ e ∈ db, e.proteins ≠ [] ∧
      (e.decoy = true ↔ ∀ x ∈ e.proteins, C05.containsSub x cfg.tag = true) := by
  intro e he
  obtain ⟨hne, htag⟩ := fasta_proteins h hgen e he
  refine ⟨hne, fun hd x hx => (htag x hx).trans hd, fun hall => ?_⟩
  obtain ⟨x, hx⟩ := List.exists_mem_of_ne_nil _ hne
  exact (htag x hx).symm.trans (hall x hx)

/-- **C07.fasta_decoys_as_coded** — … and, because the target-set filter also runs in this mode, the
    decoy entries are exactly the entries whose sequence is not a digest of an untagged record: a
    peptide of a tagged protein that is also a peptide of an untagged protein is in the database as a
    target only (and then lists only the untagged proteins). -/
theorem fasta_decoys_as_coded (cfg : Cfg Rat) (recs : List (Bytes × Bytes)) (db : List (Pep Rat))
    (h : digestRecs cfg recs = some db) (hgen : cfg.gen = false) :
    ∀ e ∈ db, (e.decoy = true ↔ e.sequence ∉ specTargets cfg.par cfg.tag recs) :=
  decoy_iff h

/-- decoys from the FASTA: `>P1 AGSMK·AGK`, `>rev_P1 AMSGK·AGK` -/
def cfgFasta : Cfg Rat := { cfgGen with gen := false, vars := [] }
def recsFasta : List (Bytes × Bytes) :=
  [([80, 49], [65, 71, 83, 77, 75, 65, 71, 75]), ([114, 101, 118, 95, 80, 49], [65, 77, 83, 71, 75, 65, 71, 75])]

/-- non-vacuity of `fasta_decoys`, `fasta_decoys_as_coded`: `AMSGK` occurs only in the tagged protein and
    is labelled decoy; `AGK` occurs in both and is in the database as a target of `P1` only. -/
example :
    (digestRecs cfgFasta recsFasta).map (·.map (·.decoy)) = some [false, true, false] ∧
    (digestRecs cfgFasta recsFasta).map (·.map (·.sequence)) = some
      [[65, 71, 83, 77, 75], [65, 77, 83, 71, 75], [65, 71, 75]] ∧
    (digestRecs cfgFasta recsFasta).map (·.map (·.proteins)) = some
      [[[80, 49]], [[114, 101, 118, 95, 80, 49]], [[80, 49]]] ∧
    cfgFasta.gen = false := by
  decide +kernel

/-- **C07.protein_names** — the reported protein names are the stored names, each prefixed with the
    decoy tag exactly when the peptide is a decoy and decoys are generated; in every other case they
    are reported unchanged (this is also the string the driver recomputes from sage's output). -/
theorem protein_names {α : Type} (tag : Bytes) (gen : Bool) (p : Pep α) :
    proteinNames tag gen p = p.proteins.map (fun s => if p.decoy = true ∧ gen = true then tag ++ s else s) ∧
    (¬ (p.decoy = true ∧ gen = true) → proteinNames tag gen p = p.proteins) := by
  unfold proteinNames
  cases p.decoy <;> cases gen <;> simp

theorem proteinsStr_eq_specNames {α : Type} [BEq α] (tag : Bytes) (gen : Bool) (p : Pep α) :
    proteinsStr tag gen p = specNames tag gen p := by
  unfold proteinsStr specNames proteinNames
  cases p.decoy <;> cases gen <;> simp

/-- non-vacuity of `protein_names`: the three cases -/
example :
    proteinNames [114, 101, 118, 95] true (reverse samplePep) = [[114, 101, 118, 95, 80, 49]] ∧
    proteinNames [114, 101, 118, 95] false (reverse samplePep) = [[80, 49]] ∧
    proteinNames [114, 101, 118, 95] true samplePep = [[80, 49]] ∧
    proteinsStr [114, 101, 118, 95] true { reverse samplePep with proteins := [[80, 49], [81]] } =
      [114, 101, 118, 95, 80, 49, 59, 114, 101, 118, 95, 81] := by
  decide +kernel

def untagged (tag : Bytes) (recs : List (Bytes × Bytes)) : List (Bytes × Bytes) :=
  recs.filter fun r => !C05.containsSub r.1 tag

def stripState (tag : Bytes) (st : C05.FState) : C05.FState := { st with targets := untagged tag st.targets }

theorem flush_strip (tag : Bytes) (st : C05.FState) :
    C05.flush tag true (stripState tag st) = (C05.flush tag false st).map (untagged tag) := by
  unfold C05.flush
  show (if st.s.isEmpty then _ else match C05.firstToken st.lastId with | none => _ | some acc => _) = _
  split
  · rfl
  · cases C05.firstToken st.lastId with
    | none => rfl
    | some acc => cases hc : C05.containsSub acc tag <;> simp [C05.keep, hc, stripState, untagged, List.filter_append]

theorem step_strip (tag : Bytes) (st : C05.FState) (l : C05.Seq) :
    C05.step tag true (stripState tag st) l = (C05.step tag false st l).map (stripState tag) := by
  unfold C05.step
  split
  · rfl
  · split
    · rw [flush_strip]; cases C05.flush tag false st <;> rfl
    · rfl

theorem parseLines_strip (tag : Bytes) (ls : List C05.Seq) (st : C05.FState) :
    C05.parseLines tag true ls (stripState tag st) = (C05.parseLines tag false ls st).map (untagged tag) := by
  induction ls generalizing st with
  | nil => exact flush_strip tag st
  | cons l ls ih =>
    unfold C05.parseLines
    rw [step_strip]
    cases C05.step tag false st l with
    | none => rfl
    | some st' => exact ih st'

/-- `Fasta::parse` with `generate_decoys = true` delivers the records it delivers with `false`, minus the
    tagged ones -/
theorem parse_gen (tag text : Bytes) :
    C05.parse tag true text = (C05.parse tag false text).map (untagged tag) :=
  parseLines_strip tag _ ⟨[], [], []⟩

theorem specTargets_untagged (par : C05.Params) (tag : Bytes) (recs : List (Bytes × Bytes)) :
    specTargets par tag (untagged tag recs) = specTargets par tag recs := by
  unfold specTargets untagged
  rw [List.filter_filter]
  congr 1
  apply List.filter_congr
  intro r _; simp

theorem filter_length_one {β κ : Type} {K : β → κ} {P : β → Bool} {l : List β}
    (hpw : l.Pairwise (fun a b => K a ≠ K b)) {t : β} (ht : t ∈ l) (hPt : P t = true)
    (huniq : ∀ x ∈ l, P x = true → K x = K t) : (l.filter P).length = 1 := by
  have hu : ∀ x ∈ l.filter P, K x = K t := fun x hx => huniq x (List.mem_filter.mp hx).1 (List.mem_filter.mp hx).2
  match l.filter P, hpw.filter P, hu, List.mem_filter.mpr ⟨ht, hPt⟩ with
  | [_], _, _, _ => rfl
  | a :: b :: _, hp, hu, _ =>
    exact absurd ((hu a List.mem_cons_self).trans (hu b (List.mem_cons_of_mem _ List.mem_cons_self)).symm)
      (List.rel_of_pairwise_cons hp List.mem_cons_self)

theorem pairOk_of {d t : Pep Rat} (hd : d.decoy = true) (ht : t.decoy = false)
    (hk : keyOf d = keyOf (mirror t)) (hp : d.proteins = t.proteins) (hm : d.mc = t.mc) : pairOk d t = true := by
  have hk' : keyOf (mirror d) = keyOf t := by rw [keyOf_mirror, hk, keyOf_mirror, mirrorKey_mirrorKey]
  rw [eq_comm, keyOf_eq_iff] at hk
  rw [keyOf_eq_iff] at hk'
  simp [pairOk, hd, ht, hk.2, hk'.2, show d.mono = t.mono from hk.1.symm, hp, hm]

theorem db_pairwise {cfg : Cfg Rat} {recs : List (Bytes × Bytes)} {db : List (Pep Rat)}
    (h : digestRecs cfg recs = some db) : db.Pairwise fun a b => keyOf a ≠ keyOf b := by
  obtain ⟨groups, _, rfl⟩ := digestRecs_some h
  exact List.pairwise_map.mpr (mergeFuel_pairwise _)

theorem target_mass {cfg : Cfg Rat} {recs : List (Bytes × Bytes)} {db : List (Pep Rat)}
    (h : digestRecs cfg recs = some db) : ∀ t ∈ db, t.decoy = false → t.mono = massOf cfg (keyOf t).2 := by
  obtain ⟨groups, hg, rfl⟩ := digestRecs_some h
  intro t ht htd
  obtain ⟨t', ht', rfl⟩ := mem_reorder.mp ht
  obtain ⟨s, hs, hk⟩ := mergeFuel_source ht'
  obtain ⟨g, _, hf⟩ := target_form hg hs ((source_decoy (e := t') hg ht' hs hk).trans htd)
  have hm : (keyOf s).1 = massOf cfg (keyOf s).2 := (mem_groupForms hf).2.2.2.2.2
  rw [hk] at hm
  exact hm

theorem contains_iff {T : List (List Nat)} {x : List Nat} : T.contains x = true ↔ x ∈ T := by simp

theorem not_contains_iff {T : List (List Nat)} {x : List Nat} : (!T.contains x) = true ↔ x ∉ T := by simp

/-- generated decoys: the four clauses hold of the model's database -/
theorem gen_clauses (cfg : Cfg Rat) (recs : List (Bytes × Bytes)) (db : List (Pep Rat))
    (h : digestRecs cfg recs = some db) (hgen : cfg.gen = true) :
    clNoCollision (specTargets cfg.par cfg.tag recs) db = true ∧
    clTargetsKnown (specTargets cfg.par cfg.tag recs) db = true ∧
    clDecoyPaired db = true ∧
    clTargetPaired (specTargets cfg.par cfg.tag recs) db = true := by
  have hI := decoy_iff h
  have hC := decoy_reverses_unique_target cfg recs db h hgen
  have hD := pairing_complete cfg recs db h hgen
  refine ⟨?_, ?_, ?_, ?_⟩
  · unfold clNoCollision
    rw [List.all_eq_true]
    intro e he
    cases hd : e.decoy with
    | false => rfl
    | true => exact not_contains_iff.mpr ((hI e he).mp hd)
  · unfold clTargetsKnown
    rw [List.all_eq_true]
    intro e he
    cases hd : e.decoy with
    | true => rfl
    | false => exact contains_iff.mpr (Decidable.of_not_not fun hn => Bool.eq_false_iff.mp hd ((hI e he).mpr hn))
  · unfold clDecoyPaired
    rw [List.all_eq_true]
    intro d hd
    cases hdd : d.decoy with
    | false => rfl
    | true =>
      obtain ⟨t, ht, htd, hk, hk', hp, hm, _⟩ := hC d hd hdd
      have hform : sameForm (mirror d) t = true := ((keyOf_eq_iff _ _).mp hk.symm).2
      -- the count compares forms without the mass: the mass of a target entry is determined by its form
      have hcount : (db.filter fun t => !t.decoy && sameForm (mirror d) t).length = 1 := by
        refine filter_length_one (K := keyOf) (db_pairwise h) ht (by rw [htd, hform]; rfl) fun x hx hPx => ?_
        rw [Bool.and_eq_true, Bool.not_eq_true', sameForm_iff] at hPx
        have hxt : (keyOf x).2 = (keyOf t).2 := hPx.2.symm.trans ((sameForm_iff _ _).mp hform)
        exact Prod.ext ((target_mass h x hx hPx.1).trans (hxt ▸ (target_mass h t ht htd).symm)) hxt
      rw [Bool.not_true, Bool.false_or, Bool.and_eq_true, beq_iff_eq, List.any_eq_true]
      exact ⟨hcount, t, ht, pairOk_of hdd htd hk' hp hm⟩
  · unfold clTargetPaired
    rw [List.all_eq_true]
    intro t ht
    cases htd : t.decoy with
    | true => rfl
    | false =>
      by_cases hin : mirrorList t.sequence ∈ specTargets cfg.par cfg.tag recs
      · rw [contains_iff.mpr hin]; rfl
      · obtain ⟨d, hd, hdd, hk', hp, hm⟩ := hD t ht htd hin
        rw [Bool.or_eq_true, List.any_eq_true]
        exact Or.inr ⟨d, hd, pairOk_of hdd htd hk' hp hm⟩

/-- FASTA decoys: the two clauses hold of the model's database -/
theorem fasta_clauses (cfg : Cfg Rat) (recs : List (Bytes × Bytes)) (db : List (Pep Rat))
    (h : digestRecs cfg recs = some db) (hgen : cfg.gen = false) :
    clFastaLabel cfg.tag db = true ∧ clFastaTargets cfg.tag (specTargets cfg.par cfg.tag recs) db = true := by
  refine ⟨?_, ?_⟩
  · unfold clFastaLabel
    rw [List.all_eq_true]
    intro e he
    obtain ⟨hne, hiff⟩ := fasta_decoys cfg recs db h hgen e he
    rw [Bool.and_eq_true, beq_iff_eq]
    refine ⟨?_, Bool.eq_iff_iff.mpr (hiff.trans List.all_eq_true.symm)⟩
    cases hp : e.proteins with
    | nil => exact absurd hp hne
    | cons _ _ => rfl
  · unfold clFastaTargets
    rw [List.all_eq_true]
    intro e he
    have hiff := decoy_iff h e he
    rw [Bool.and_eq_true, beq_iff_eq]
    refine ⟨Bool.eq_iff_iff.mpr (hiff.trans not_contains_iff.symm), ?_⟩
    cases hd : e.decoy with
    | true => rfl
    | false =>
      rw [Bool.false_or, List.all_eq_true]
      intro x hx
      rw [(fasta_proteins h hgen e he).2 x hx, hd]
      rfl

theorem names_clause (tag : Bytes) (gen : Bool) (db : List (Pep Rat)) :
    ((db.zip (db.map (proteinsStr tag gen))).any fun er => specNames tag gen er.1 != er.2) = false := by
  induction db with
  | nil => rfl
  | cons e db ih =>
    simp only [List.map_cons, List.zip_cons_cons, List.any_cons, ih, Bool.or_false]
    rw [proteinsStr_eq_specNames]; simp

/-- the database of a FASTA text is the database of its parsed records (`Sage.C05.parse`, which in
    `generate_decoys` mode has already dropped the tagged records) -/
theorem buildDb_some {cfg : Cfg Rat} {text : Bytes} {db : List (Pep Rat)} (h : buildDb cfg text = some db) :
    ∃ recs, C05.parse cfg.tag cfg.gen text = some recs ∧ digestRecs cfg recs = some db := by
  unfold buildDb at h
  cases hp : C05.parse cfg.tag cfg.gen text with
  | none => rw [hp] at h; cases h
  | some recs => rw [hp] at h; exact ⟨recs, rfl, h⟩

/-- **C07.model_meets_spec** — the model's database passes every clause the driver evaluates on the
    implementation's database: for every FASTA text and configuration for which the database is built,
    `specVerdict` on (the records of the text, the model's entries, the model's reported protein
    strings) is `"ok"`. A `bad:*` verdict of the driver is therefore about the implementation's output,
    never about the specification being unsatisfiable by the modelled algorithm. -/
theorem model_meets_spec (cfg : Cfg Rat) (text : Bytes) (db : List (Pep Rat)) (recsAll : List (Bytes × Bytes))
    (hb : buildDb cfg text = some db) (hp : C05.parse cfg.tag false text = some recsAll) :
    specVerdict cfg.par cfg.tag cfg.gen recsAll db (db.map (proteinsStr cfg.tag cfg.gen)) = "ok" := by
  obtain ⟨recs, hrecs, hdb⟩ := buildDb_some hb
  have hn := names_clause cfg.tag cfg.gen db
  unfold specVerdict
  cases hgen : cfg.gen with
  | true =>
    rw [hgen] at hrecs hn
    rw [parse_gen, hp] at hrecs
    simp only [Option.map_some, Option.some.injEq] at hrecs
    obtain ⟨c1, c2, c3, c4⟩ := gen_clauses cfg recs db hdb hgen
    subst hrecs
    rw [specTargets_untagged] at c1 c2 c4
    simp [hn, c1, c2, c3, c4]
  | false =>
    rw [hgen] at hrecs hn
    rw [hp] at hrecs
    simp only [Option.some.injEq] at hrecs
    obtain ⟨c1, c2⟩ := fasta_clauses cfg recs db hdb hgen
    subst hrecs
    simp [hn, c1, c2]

/-- `>P1 AGSMK·AGSGK·AK`, `>rev_P9 KAGSK` (tagged), `>P2 AGSMK` as FASTA text -/
def textGen : Bytes := [62, 80, 49, 10, 65, 71, 83, 77, 75, 65, 71, 83, 71, 75, 65, 75, 10, 62, 114, 101, 118, 95, 80, 57, 10, 75, 65, 71, 83, 75, 10, 62, 80, 50, 10, 65, 71, 83, 77, 75, 10]

/-- non-vacuity of `model_meets_spec`: both hypotheses hold, in both modes, for a text with a tagged record -/
example :
    (buildDb cfgGen textGen).map (·.length) = some 6 ∧ (buildDb cfgFasta textGen).map (·.length) = some 5 ∧
    (C05.parse cfgGen.tag false textGen).map (·.length) = some 3 := by
  decide +kernel

/-- **C07.reverse_names** — (`rev7` level) for a target `p` the reported protein string of its decoy
    `reverse p` is the target's names, each prefixed with the tag, joined by `;` in the same order when
    decoys are generated, and the target's own string otherwise; the target's string is its names
    joined by `;`. -/
theorem reverse_names {α : Type} (tag : Bytes) (gen : Bool) (p : Pep α) (hwf : WF p) (hp : p.decoy = false) :
    proteinsStr tag true (reverse p) = joinSemi (p.proteins.map (tag ++ ·)) ∧
    proteinsStr tag false (reverse p) = joinSemi p.proteins ∧
    proteinsStr tag gen p = joinSemi p.proteins := by
  obtain ⟨_, _, _, hpr, _, _, _, hd, _⟩ := reverse_preserves p hwf
  unfold proteinsStr proteinNames
  rw [hd, hpr, hp]
  simp

/-- **C07.decoy_names** — in the database with generated decoys the reported protein string of a decoy
    entry is the names of its target entry, each prefixed with the tag, joined by `;` in the same order;
    the target's string is its names unchanged. -/
theorem decoy_names (cfg : Cfg Rat) (recs : List (Bytes × Bytes)) (db : List (Pep Rat))
    (h : digestRecs cfg recs = some db) (hgen : cfg.gen = true) :
    ∀ d ∈ db, d.decoy = true →
      ∃ t ∈ db, t.decoy = false ∧ keyOf t = keyOf (mirror d) ∧
        proteinsStr cfg.tag cfg.gen d = joinSemi (t.proteins.map (cfg.tag ++ ·)) ∧
        proteinsStr cfg.tag cfg.gen t = joinSemi t.proteins := by
  intro d hd hdd
  obtain ⟨t, ht, htd, hk, _, hp, _, _⟩ := decoy_reverses_unique_target cfg recs db h hgen d hd hdd
  refine ⟨t, ht, htd, hk, ?_, ?_⟩
  · unfold proteinsStr proteinNames
    rw [hdd, hgen, hp]; simp
  · unfold proteinsStr proteinNames
    rw [htd]; simp

/-- non-vacuity of `reverse_names` / `decoy_names`: two proteins, order kept -/
example :
    proteinsStr [114, 101, 118, 95] true (reverse { samplePep with proteins := [[80, 49], [81]] }) =
      [114, 101, 118, 95, 80, 49, 59, 114, 101, 118, 95, 81] ∧
    proteinsStr [114, 101, 118, 95] true { samplePep with proteins := [[80, 49], [81]] } = [80, 49, 59, 81] := by
  decide +kernel

/-- **C07.groupDigests_nil** — an empty digest list gives no groups (it used to index `digests[0]` and panic). -/
theorem groupDigests_nil : groupDigests [] = some [] := rfl

/-- **C07.digestRecs_no_digest** — records none of which yields a peptide build the EMPTY database. -/
theorem digestRecs_no_digest {α : Type} [Add α] [OfNat α 0] [BEq α] [LE α] [DecidableLE α] (cfg : Cfg α)
    (recs : List (Bytes × Bytes)) (h : fastaDigest cfg.par cfg.tag cfg.gen recs = []) : digestRecs cfg recs = some [] := by
  unfold digestRecs
  rw [h, groupDigests_nil]
  rfl

/-- non-vacuity: no record at all -/
example : fastaDigest (⟨0, 5, 50, none⟩ : C05.Params) [114] true [] = [] := rfl
end Sage.C07
