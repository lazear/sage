import SageModel.Model.C14
import Mathlib.Algebra.Order.Field.Rat
import Mathlib.Tactic.NormNum

/-!
# C14 — `RQ rnd`: rationals under an abstract rounding operator

Every arithmetic operation is followed by `rnd : Rat → Rat`, like IEEE arithmetic rounds every
operation to a representable number. Comparisons, `max`/`min`, negation, `floor` and the clamp are
exact (they are exact in IEEE arithmetic too). The generic model of `SageModel/Model/C14.lean` runs
at this type unchanged, so a theorem about `bayes (α := RQ rnd)` is a theorem about the code's formula
under ANY rounding with the properties of `Rounding` (hypotheses, not axioms); IEEE round-to-nearest-even
has all of them (overflow aside).
-/

namespace Sage.C14

structure RQ (rnd : Rat → Rat) where
  val : Rat

namespace RQ
variable {rnd : Rat → Rat}

instance : Add (RQ rnd) := ⟨fun a b => ⟨rnd (a.val + b.val)⟩⟩
instance : Sub (RQ rnd) := ⟨fun a b => ⟨rnd (a.val - b.val)⟩⟩
instance : Mul (RQ rnd) := ⟨fun a b => ⟨rnd (a.val * b.val)⟩⟩
instance : Div (RQ rnd) := ⟨fun a b => ⟨rnd (a.val / b.val)⟩⟩
instance : Neg (RQ rnd) := ⟨fun a => ⟨-a.val⟩⟩
instance : NumExt (RQ rnd) where
  ofNat n := ⟨rnd (n : Rat)⟩
  floorNat x := x.val.floor.toNat
  fmax a b := ⟨max a.val b.val⟩
  fmin a b := ⟨min a.val b.val⟩
  clamp01 x := ⟨if x.val < 0 then 0 else if 1 < x.val then 1 else x.val⟩

@[simp] theorem add_val (a b : RQ rnd) : (a + b).val = rnd (a.val + b.val) := rfl
@[simp] theorem sub_val (a b : RQ rnd) : (a - b).val = rnd (a.val - b.val) := rfl
@[simp] theorem mul_val (a b : RQ rnd) : (a * b).val = rnd (a.val * b.val) := rfl
@[simp] theorem div_val (a b : RQ rnd) : (a / b).val = rnd (a.val / b.val) := rfl
@[simp] theorem neg_val (a : RQ rnd) : (-a).val = -a.val := rfl
@[simp] theorem ofNat_val (n : Nat) : (ofNat n : RQ rnd).val = rnd (n : Rat) := rfl
@[simp] theorem clamp_val (x : RQ rnd) :
    (clamp01 x).val = if x.val < 0 then 0 else if 1 < x.val then 1 else x.val := rfl

end RQ

structure Rounding (rnd : Rat → Rat) : Prop where
  mono : ∀ x y, x ≤ y → rnd x ≤ rnd y
  zero : rnd 0 = 0
  one : rnd 1 = 1
  odd : ∀ x, rnd (-x) = -rnd x
  idem : ∀ x, rnd (rnd x) = rnd x

namespace Rounding
variable {rnd : Rat → Rat} (R : Rounding rnd)
include R

theorem fixed_le {c x : Rat} (hc : rnd c = c) (h : c ≤ x) : c ≤ rnd x := hc.symm.trans_le (R.mono c x h)

theorem le_fixed {c x : Rat} (hc : rnd c = c) (h : x ≤ c) : rnd x ≤ c := (R.mono x c h).trans_eq hc

theorem nonneg {x : Rat} (h : 0 ≤ x) : 0 ≤ rnd x := R.fixed_le R.zero h

theorem nonpos {x : Rat} (h : x ≤ 0) : rnd x ≤ 0 := R.le_fixed R.zero h

theorem le_one {x : Rat} (h : x ≤ 1) : rnd x ≤ 1 := R.le_fixed R.one h

end Rounding

/-- a genuinely lossy `Rounding` for the examples: truncation toward zero to multiples of 1/8 -/
def rnd8 (x : Rat) : Rat :=
  if 0 ≤ x then ((x * 8).floor : Rat) / 8 else -(((-x * 8).floor : Rat) / 8)

theorem rnd8_of_nonneg {x : Rat} (h : 0 ≤ x) : rnd8 x = ((x * 8).floor : Rat) / 8 := if_pos h

theorem rnd8_zero : rnd8 0 = 0 := by decide +kernel

theorem rnd8_neg (x : Rat) : rnd8 (-x) = -rnd8 x := by
  rcases lt_trichotomy x 0 with h | rfl | h
  · rw [rnd8_of_nonneg (neg_nonneg.2 h.le), rnd8, if_neg (not_le.2 h), neg_neg]
  · rw [neg_zero, rnd8_zero, neg_zero]
  · rw [rnd8_of_nonneg h.le, rnd8, if_neg (not_le.2 (neg_neg_of_pos h)), neg_neg]

theorem rnd8_mono_of_nonneg {x y : Rat} (hx : 0 ≤ x) (h : x ≤ y) : rnd8 x ≤ rnd8 y := by
  rw [rnd8_of_nonneg hx, rnd8_of_nonneg (hx.trans h)]
  have := Rat.floor_monotone (Rat.mul_le_mul_of_nonneg_right h (Nat.ofNat_nonneg 8))
  exact div_le_div_of_nonneg_right (Int.cast_le.2 this) (Nat.ofNat_nonneg 8)

theorem rnd8_nonneg {x : Rat} (h : 0 ≤ x) : 0 ≤ rnd8 x :=
  rnd8_zero.symm.trans_le (rnd8_mono_of_nonneg le_rfl h)

theorem rnd8_idem_of_nonneg {x : Rat} (hx : 0 ≤ x) : rnd8 (rnd8 x) = rnd8 x := by
  rw [rnd8_of_nonneg (rnd8_nonneg hx), rnd8_of_nonneg hx, div_mul_cancel₀ _ (by norm_num), Rat.floor_intCast]

/-- `rnd8` is odd, so what it does on negative numbers follows from the non-negative half -/
theorem rnd8_rounding : Rounding rnd8 := by
  refine ⟨fun x y h => ?_, rnd8_zero, by decide +kernel, rnd8_neg, fun x => ?_⟩
  · rcases le_or_gt 0 x with hx | hx
    · exact rnd8_mono_of_nonneg hx h
    · rcases le_or_gt 0 y with hy | hy
      · have := rnd8_nonneg (neg_nonneg.2 hx.le)
        rw [rnd8_neg] at this
        exact (neg_nonneg.1 this).trans (rnd8_nonneg hy)
      · have := rnd8_mono_of_nonneg (neg_nonneg.2 hy.le) (neg_le_neg h)
        rwa [rnd8_neg, rnd8_neg, neg_le_neg_iff] at this
  · rcases le_total 0 x with hx | hx
    · exact rnd8_idem_of_nonneg hx
    · have := rnd8_idem_of_nonneg (neg_nonneg.2 hx)
      rwa [rnd8_neg, rnd8_neg, neg_inj] at this

end Sage.C14
