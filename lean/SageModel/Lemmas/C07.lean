import SageModel.Model.C07
import SageModel.Props.C06
import Mathlib.Data.List.Basic

/-!
# C07 — helper lemmas (slice reversal, the merge of `reorder_peptides`, `group_digests`, forms)

After the list arithmetic of `revSlice` / `mirrorList`, `mergeFuel_spec` and `groupDigests_spec` are the
two loop characterisations (the `dedup_by` merge of `reorder_peptides`, the grouping of sorted digests in
`group_digests`); the rest is membership in the lists built around those loops. `Props/C06.lean` is
imported because the C07 database model builds its forms with C06's `dbForms`, so `mem_groupForms` rests
on C06's theorems about the generated forms and their masses (`range_filter`, `mass_formula`);
`pairwise_forall_symm`, a plain list fact, is taken from there as well.
-/

namespace Sage.C07

theorem revSlice_ends {β : Type} (a : β) (mid tail : List β) :
    revSlice (mid.length + 1) (a :: (mid ++ tail)) = a :: (mid.reverse ++ tail) := by
  show a :: (((mid ++ tail).take mid.length).reverse ++ (mid ++ tail).drop mid.length) = _
  rw [List.take_left, List.drop_left]

theorem mirrorList_ends {β : Type} (a z : β) (mid : List β) :
    mirrorList (a :: (mid ++ [z])) = a :: (mid.reverse ++ [z]) := by
  simp [mirrorList]

theorem ends_cases {β : Type} (l : List β) :
    l.length ≤ 1 ∨ ∃ a mid z, l = a :: (mid ++ [z]) := by
  match l with
  | [] => exact Or.inl (Nat.zero_le _)
  | a :: rest =>
    rcases List.eq_nil_or_concat' rest with rfl | ⟨mid, z, rfl⟩
    · exact Or.inl (Nat.le_refl _)
    · exact Or.inr ⟨a, mid, z, rfl⟩

theorem mirrorList_short {β : Type} (l : List β) (h : l.length ≤ 3) : mirrorList l = l := by
  rcases l with _ | ⟨_, _ | ⟨_, _ | ⟨_, _ | ⟨_, _⟩⟩⟩⟩
  · rfl
  · rfl
  · rfl
  · rfl
  · simp at h

/-- the slice arithmetic of `Peptide::reverse` is the property's reversal: ends fixed, middle reversed -/
theorem revSlice_eq_mirrorList {β : Type} (l : List β) (h : 2 ≤ l.length) :
    revSlice (l.length - 1) l = mirrorList l := by
  rcases ends_cases l with h1 | ⟨a, mid, z, rfl⟩
  · omega
  · rw [mirrorList_ends, ← revSlice_ends]
    show revSlice (mid ++ [z]).length _ = _
    rw [List.length_append]; rfl

theorem mirrorList_length {β : Type} (l : List β) : (mirrorList l).length = l.length := by
  rcases ends_cases l with h | ⟨a, mid, z, rfl⟩
  · rw [mirrorList_short l (by omega)]
  · simp [mirrorList_ends]

theorem mirrorList_mirrorList {β : Type} (l : List β) : mirrorList (mirrorList l) = l := by
  rcases ends_cases l with h | ⟨a, mid, z, rfl⟩
  · rw [mirrorList_short l (by omega), mirrorList_short l (by omega)]
  · simp [mirrorList_ends]

theorem mirrorList_getElem?_zero {β : Type} (l : List β) : (mirrorList l)[0]? = l[0]? := by
  rcases ends_cases l with h | ⟨a, mid, z, rfl⟩
  · rw [mirrorList_short l (by omega)]
  · rw [mirrorList_ends]; rfl

theorem mirrorList_getElem?_last {β : Type} (l : List β) :
    (mirrorList l)[l.length - 1]? = l[l.length - 1]? := by
  rw [← List.getLast?_eq_getElem?, ← mirrorList_length, ← List.getLast?_eq_getElem?]
  rcases ends_cases l with h | ⟨a, mid, z, rfl⟩
  · rw [mirrorList_short l (by omega)]
  · rw [mirrorList_ends, ← List.cons_append, ← List.cons_append, List.getLast?_concat, List.getLast?_concat]

theorem mirrorList_getElem?_mid {β : Type} (l : List β) (i : Nat) (h1 : 1 ≤ i) (h2 : i + 2 ≤ l.length) :
    (mirrorList l)[i]? = l[l.length - 1 - i]? := by
  -- between the ends `mirrorList l` agrees with `l.reverse`
  rw [← List.getElem?_reverse (Nat.lt_of_lt_of_le (Nat.lt_add_of_pos_right (by decide)) h2)]
  rcases ends_cases l with h | ⟨a, mid, z, rfl⟩
  · omega
  · cases i with
    | zero => cases h1
    | succ j =>
      rw [List.length_cons, List.length_append, List.length_singleton] at h2
      have hj : j < mid.reverse.length := by rw [List.length_reverse]; omega
      simp only [mirrorList_ends, List.reverse_cons, List.reverse_append, List.reverse_nil, List.nil_append,
        List.cons_append, List.getElem?_cons_succ]
      rw [List.getElem?_append_left hj, List.getElem?_append_left hj]

theorem revSlice_perm {β : Type} (n : Nat) (l : List β) (h : 1 ≤ n) : (revSlice n l).Perm l := by
  unfold revSlice
  have e : l = l.take 1 ++ ((l.drop 1).take (n - 1) ++ l.drop n) := by
    have h1 : (l.drop 1).drop (n - 1) = l.drop n := by
      rw [List.drop_drop]; congr 1; omega
    rw [← h1, List.take_append_drop, List.take_append_drop]
  conv_rhs => rw [e]
  rw [List.append_assoc]
  exact List.Perm.append_left _ (List.Perm.append_right _ (List.reverse_perm _))

/-- the invariant every peptide made by `try_from` + `apply` satisfies: one modification slot per residue -/
def WF {α : Type} (p : Pep α) : Prop := p.mods.length = p.sequence.length

theorem reverse_of_gt {α : Type} (p : Pep α) (hn : p.sequence.length - 1 > 1) :
    reverse p = { p with decoy := !p.decoy, sequence := revSlice (p.sequence.length - 1) p.sequence,
                         mods := revSlice (p.sequence.length - 1) p.mods } :=
  if_pos hn

theorem reverse_of_le {α : Type} (p : Pep α) (hn : ¬ p.sequence.length - 1 > 1) :
    reverse p = { p with decoy := !p.decoy } :=
  if_neg hn

section merge
variable {α : Type} [DecidableEq α]

/-- the key `dedup_by` compares -/
def keyOf (p : Pep α) : α × List Nat × List α × Option α × Option α :=
  (p.mono, p.sequence, p.mods, p.nterm, p.cterm)

theorem sameKey_iff (a b : Pep α) : sameKey a b = true ↔ keyOf a = keyOf b := by
  simp only [sameKey, keyOf, Bool.and_eq_true, beq_iff_eq, Prod.mk.injEq, and_assoc]

theorem sameKey_false_iff (a b : Pep α) : sameKey a b = false ↔ keyOf a ≠ keyOf b := by
  rw [Ne, ← sameKey_iff, Bool.not_eq_true]

theorem sameKey_refl (a : Pep α) : sameKey a a = true := (sameKey_iff a a).mpr rfl

theorem sameKey_congr_right {a b : Pep α} (h : keyOf a = keyOf b) (s : Pep α) : sameKey s a = sameKey s b := by
  rw [Bool.eq_iff_iff, sameKey_iff, sameKey_iff, h]

theorem sameForm_iff (a b : Pep α) : sameForm a b = true ↔ (keyOf a).2 = (keyOf b).2 := by
  simp only [sameForm, keyOf, Bool.and_eq_true, beq_iff_eq, Prod.mk.injEq, and_assoc]

theorem keyOf_eq_iff (a b : Pep α) : keyOf a = keyOf b ↔ a.mono = b.mono ∧ sameForm a b = true := by
  rw [sameForm_iff]; exact Prod.ext_iff

omit [DecidableEq α] in
theorem absorbAll_spec (k : Pep α) (rs : List (Pep α)) :
    keyOf (absorbAll k rs) = keyOf k ∧
    (absorbAll k rs).decoy = (k :: rs).all (·.decoy) ∧
    (absorbAll k rs).proteins = (k :: rs).flatMap (·.proteins) ∧
    (absorbAll k rs).mc = (rs.map (·.mc)).foldl min k.mc := by
  induction rs generalizing k with
  | nil => simp [absorbAll]
  | cons r rs ih =>
    obtain ⟨h1, h2, h3, h4⟩ := ih (absorb k r)
    refine ⟨h1, h2.trans ?_, h3.trans ?_, h4⟩
    · simp only [List.all_cons, absorb, Bool.and_assoc]
    · simp only [List.flatMap_cons, absorb, List.append_assoc]

/-- the merge loop: entries have pairwise different keys, every form's key is the key of an entry, and an
    entry is its class (the forms with its key, in generation order) folded by `absorb` -/
theorem mergeFuel_spec (n : Nat) (l : List (Pep α)) (hn : l.length ≤ n) :
    (mergeFuel n l).Pairwise (fun a b => keyOf a ≠ keyOf b) ∧
    (∀ s ∈ l, ∃ e ∈ mergeFuel n l, keyOf e = keyOf s) ∧
    ∀ e ∈ mergeFuel n l, ∃ p rs, l.filter (fun s => sameKey s e) = p :: rs ∧ e = absorbAll p rs := by
  induction n generalizing l with
  | zero =>
    obtain rfl := List.eq_nil_of_length_eq_zero (Nat.le_zero.mp hn)
    exact ⟨List.Pairwise.nil, fun _ h => (nomatch h), fun _ h => (nomatch h)⟩
  | succ n ih =>
    cases l with
    | nil => exact ⟨List.Pairwise.nil, fun _ h => (nomatch h), fun _ h => (nomatch h)⟩
    | cons p rest =>
      obtain ⟨ih1, ih2, ih3⟩ := ih (rest.filter fun q => !sameKey q p)
        (Nat.le_trans (List.length_filter_le _ _) (Nat.le_of_succ_le_succ hn))
      have hkey := (absorbAll_spec p (rest.filter fun q => sameKey q p)).1
      -- an entry of the tail has the key of a form that was not absorbed by `p`
      have hne : ∀ e ∈ mergeFuel n (rest.filter fun q => !sameKey q p), keyOf e ≠ keyOf p := by
        intro e he
        obtain ⟨q, qs, hq, rfl⟩ := ih3 e he
        have hq' : q ∈ (rest.filter fun q => !sameKey q p).filter fun s => sameKey s (absorbAll q qs) :=
          hq ▸ List.mem_cons_self
        simp only [List.mem_filter, Bool.not_eq_true', sameKey_iff, sameKey_false_iff] at hq'
        exact hq'.2 ▸ hq'.1.2
      refine ⟨List.pairwise_cons.mpr ⟨fun e he => hkey ▸ (hne e he).symm, ih1⟩, fun s hs => ?_, fun e he => ?_⟩
      · by_cases hk : keyOf s = keyOf p
        · exact ⟨_, List.mem_cons_self, hkey.trans hk.symm⟩
        · obtain ⟨e, he, hke⟩ := ih2 s (List.mem_filter.mpr
            ⟨(List.mem_cons.mp hs).resolve_left fun h => hk (h ▸ rfl), by simpa [sameKey_false_iff] using hk⟩)
          exact ⟨e, List.mem_cons_of_mem _ he, hke⟩
      · rcases List.mem_cons.mp he with rfl | he
        · exact ⟨p, _, by rw [funext (sameKey_congr_right hkey), List.filter_cons, if_pos (sameKey_refl p)], rfl⟩
        · obtain ⟨q, qs, hq, hqe⟩ := ih3 e he
          refine ⟨q, qs, ?_, hqe⟩
          rw [← hq, List.filter_cons, if_neg fun h => hne e he ((sameKey_iff p e).mp h).symm, List.filter_filter]
          refine List.filter_congr fun s _ => ?_
          cases hs : sameKey s e
          · rfl
          · rw [(sameKey_false_iff s p).mpr ((sameKey_iff s e).mp hs ▸ hne e he)]; rfl

theorem mergeFuel_pairwise (l : List (Pep α)) : (mergeFuel l.length l).Pairwise (fun a b => keyOf a ≠ keyOf b) :=
  (mergeFuel_spec _ l (Nat.le_refl _)).1

theorem mergeFuel_key_inj {l : List (Pep α)} {a b : Pep α} (ha : a ∈ mergeFuel l.length l)
    (hb : b ∈ mergeFuel l.length l) (h : keyOf a = keyOf b) : a = b :=
  Classical.byContradiction fun hne =>
    C06.pairwise_forall_symm (R := fun a b => keyOf a ≠ keyOf b) (fun _ _ h => h.symm) (mergeFuel_pairwise l)
      a ha b hb hne h

theorem mergeFuel_complete {l : List (Pep α)} {s : Pep α} (hs : s ∈ l) :
    ∃ e ∈ mergeFuel l.length l, keyOf e = keyOf s :=
  (mergeFuel_spec _ l (Nat.le_refl _)).2.1 s hs

theorem mem_mergeFuel {l : List (Pep α)} {e : Pep α} (he : e ∈ mergeFuel l.length l) :
    ∃ p rs, l.filter (fun s => sameKey s e) = p :: rs ∧ e = absorbAll p rs :=
  (mergeFuel_spec _ l (Nat.le_refl _)).2.2 e he

theorem mergeFuel_source {l : List (Pep α)} {e : Pep α} (he : e ∈ mergeFuel l.length l) :
    ∃ s ∈ l, keyOf s = keyOf e := by
  obtain ⟨p, rs, hc, _⟩ := mem_mergeFuel he
  have hp : p ∈ l.filter fun s => sameKey s e := hc ▸ List.mem_cons_self
  rw [List.mem_filter, sameKey_iff] at hp
  exact ⟨p, hp⟩

theorem mergeFuel_decoy {l : List (Pep α)} {e : Pep α} (he : e ∈ mergeFuel l.length l) :
    e.decoy = true ↔ ∀ s ∈ l, keyOf s = keyOf e → s.decoy = true := by
  obtain ⟨p, rs, hc, rfl⟩ := mem_mergeFuel he
  rw [(absorbAll_spec p rs).2.1, ← hc]
  simp only [List.all_eq_true, List.mem_filter, sameKey_iff, and_imp]

theorem mergeFuel_proteins {l : List (Pep α)} {e : Pep α} (he : e ∈ mergeFuel l.length l) :
    e.proteins = (l.filter fun s => sameKey s e).flatMap (·.proteins) := by
  obtain ⟨p, rs, hc, rfl⟩ := mem_mergeFuel he
  rw [(absorbAll_spec p rs).2.2.1, ← hc]

end merge

theorem mem_insertSorted {β : Type} (le : β → β → Bool) (x y : β) (l : List β) :
    y ∈ insertSorted le x l ↔ y = x ∨ y ∈ l := by
  induction l with
  | nil => simp [insertSorted]
  | cons a as ih =>
    unfold insertSorted
    split
    · exact List.mem_cons
    · rw [List.mem_cons, ih, List.mem_cons]; exact or_left_comm

theorem mem_isort {β : Type} (le : β → β → Bool) (y : β) (l : List β) : y ∈ isort le l ↔ y ∈ l := by
  induction l with
  | nil => rfl
  | cons a as ih => exact (mem_insertSorted le a y _).trans ((or_congr_right ih).trans List.mem_cons.symm)

theorem markDigest_eq_some {tag : Bytes} {gen : Bool} {acc : Bytes} {c : C05.Digest} {d : DDigest} :
    markDigest tag gen acc c = some d ↔
      d = ⟨C05.containsSub acc tag, c.semi, c.seq, acc, c.mc, c.pos⟩ ∧ (gen = true → C05.containsSub acc tag = false) := by
  unfold markDigest
  cases C05.containsSub acc tag <;> cases gen <;> simp [eq_comm]

theorem mem_fastaDigest {par : C05.Params} {tag : Bytes} {gen : Bool} {recs : List (Bytes × Bytes)} {d : DDigest} :
    d ∈ fastaDigest par tag gen recs ↔
      ∃ r ∈ recs, ∃ c ∈ C05.digest par r.2, d = ⟨C05.containsSub r.1 tag, c.semi, c.seq, r.1, c.mc, c.pos⟩ ∧
        (gen = true → C05.containsSub r.1 tag = false) := by
  unfold fastaDigest
  simp only [List.mem_flatMap, List.mem_filterMap, markDigest_eq_some]

theorem sameGroup_iff (d r : DDigest) : sameGroup d r = true ↔ d.decoy = r.decoy ∧ d.pos = r.pos ∧ d.seq = r.seq := by
  simp only [sameGroup, Bool.and_eq_true, beq_iff_eq, and_assoc]

theorem sameGroup_refl (d : DDigest) : sameGroup d d = true := (sameGroup_iff d d).mpr ⟨rfl, rfl, rfl⟩

def GoodGroup (all : List DDigest) (g : Group) : Prop :=
  g.ref ∈ all ∧ g.proteins ≠ [] ∧ ∀ x ∈ g.proteins, ∃ d ∈ all, sameGroup d g.ref = true ∧ d.protein = x

theorem goodGroup_single {all : List DDigest} {d : DDigest} (hd : d ∈ all) : GoodGroup all ⟨d, [d.protein]⟩ :=
  ⟨hd, List.cons_ne_nil _ _, fun _ hx => ⟨d, hd, sameGroup_refl d, (List.mem_singleton.mp hx).symm⟩⟩

theorem groupLoop_good {all : List DDigest} (cur : Group) (ds : List DDigest) (hds : ∀ d ∈ ds, d ∈ all)
    (hcur : GoodGroup all cur) : ∀ g ∈ groupLoop cur ds, GoodGroup all g := by
  induction ds generalizing cur with
  | nil => intro g hg; rwa [List.mem_singleton.mp hg]
  | cons d ds ih =>
    have hd := hds d List.mem_cons_self
    have hds' := fun x hx => hds x (List.mem_cons_of_mem _ hx)
    by_cases hs : sameGroup d cur.ref = true
    · rw [groupLoop, if_pos hs]
      refine ih _ hds' ⟨hcur.1, List.append_ne_nil_of_right_ne_nil _ (List.cons_ne_nil _ _), fun x hx => ?_⟩
      rcases List.mem_append.mp hx with hx | hx
      · exact hcur.2.2 x hx
      · exact ⟨d, hd, hs, (List.mem_singleton.mp hx).symm⟩
    · rw [groupLoop, if_neg hs]
      intro g hg
      rcases List.mem_cons.mp hg with rfl | hg
      · exact hcur
      · exact ih _ hds' (goodGroup_single hd) g hg

theorem groupLoop_cover (cur : Group) (ds : List DDigest) :
    (∃ g ∈ groupLoop cur ds, g.ref = cur.ref ∧ ∀ x ∈ cur.proteins, x ∈ g.proteins) ∧
    ∀ d ∈ ds, ∃ g ∈ groupLoop cur ds, sameGroup d g.ref = true ∧ d.protein ∈ g.proteins := by
  induction ds generalizing cur with
  | nil => exact ⟨⟨cur, List.mem_singleton.mpr rfl, rfl, fun _ h => h⟩, fun _ h => nomatch h⟩
  | cons d ds ih =>
    by_cases hs : sameGroup d cur.ref = true
    · rw [groupLoop, if_pos hs]
      obtain ⟨⟨g, hg, h1, h2⟩, ihc⟩ := ih { cur with proteins := cur.proteins ++ [d.protein] }
      refine ⟨⟨g, hg, h1, fun x hx => h2 x (List.mem_append_left _ hx)⟩, fun d' hd' => ?_⟩
      rcases List.mem_cons.mp hd' with rfl | hd'
      · exact ⟨g, hg, h1 ▸ hs, h2 _ (List.mem_append_right _ List.mem_cons_self)⟩
      · exact ihc d' hd'
    · rw [groupLoop, if_neg hs]
      obtain ⟨⟨g, hg, h1, h2⟩, ihc⟩ := ih ⟨d, [d.protein]⟩
      refine ⟨⟨cur, List.mem_cons_self, rfl, fun _ h => h⟩, fun d' hd' => ?_⟩
      rcases List.mem_cons.mp hd' with rfl | hd'
      · exact ⟨g, List.mem_cons_of_mem _ hg, h1 ▸ sameGroup_refl d', h2 _ List.mem_cons_self⟩
      · obtain ⟨g', hg', h⟩ := ihc d' hd'
        exact ⟨g', List.mem_cons_of_mem _ hg', h⟩

theorem groupDigests_spec {ds : List DDigest} {groups : List Group} (h : groupDigests ds = some groups) :
    (∀ g ∈ groups, GoodGroup ds g) ∧
    ∀ d ∈ ds, ∃ g ∈ groups, sameGroup d g.ref = true ∧ d.protein ∈ g.proteins := by
  have hperm : ∀ d, d ∈ isort digestLe ds ↔ d ∈ ds := fun d => mem_isort _ d ds
  unfold groupDigests at h
  cases heq : isort digestLe ds with
  | nil =>
    rw [heq] at h hperm
    obtain rfl := Option.some.inj h
    exact ⟨fun _ h => (nomatch h), fun d hd => nomatch (hperm d).mpr hd⟩
  | cons d rest =>
    rw [heq] at h hperm
    obtain rfl := Option.some.inj h
    refine ⟨?_, fun d' hd' => (groupLoop_cover _ _).2 d' ((hperm d').mpr hd')⟩
    -- the first digest joins the initial (empty) group
    have hstep : groupLoop ⟨d, []⟩ (d :: rest) = groupLoop ⟨d, [d.protein]⟩ rest := by
      rw [groupLoop, if_pos (sameGroup_refl d)]; rfl
    rw [hstep]
    exact groupLoop_good _ rest (fun x hx => (hperm x).mp (List.mem_cons_of_mem _ hx))
      (goodGroup_single ((hperm d).mp List.mem_cons_self))

/-- the mass the formula of C06 assigns to a form (sequence, modification vector, terminal modifications) -/
def massOf (cfg : Cfg Rat) (k : List Nat × List Rat × Option Rat × Option Rat) : Rat :=
  cfg.h2o + (k.1.map (C06.monoisotopic cfg.table)).sum + k.2.1.sum + k.2.2.1.getD 0 + k.2.2.2.getD 0

theorem mem_groupForms {cfg : Cfg Rat} {g : Group} {f : Pep Rat} (h : f ∈ groupForms cfg g) :
    f.sequence = natSeq g.ref.seq ∧ f.decoy = g.ref.decoy ∧ f.proteins = g.proteins ∧ f.mc = g.ref.mc ∧ WF f ∧
      f.mono = massOf cfg (keyOf f).2 := by
  obtain ⟨c, hc, rfl⟩ := List.mem_map.mp h
  obtain ⟨p, hp, hap, _⟩ := (C06.range_filter _ _ _ _ _ _ _ _ _ c).mp hc
  obtain ⟨hs, _, hl, hm⟩ := C06.mass_formula _ _ _ _ _ _ _ p hp c hap
  exact ⟨hs, rfl, rfl, rfl, hl.trans (congrArg List.length hs).symm, hm.trans (by rw [← hs]; rfl)⟩

theorem mem_dedupAdj (l : List Bytes) (x : Bytes) : x ∈ dedupAdj l ↔ x ∈ l := by
  induction l using dedupAdj.induct with
  | case1 => rfl
  | case2 y => rfl
  | case3 a b rest h ih =>
    rw [dedupAdj, if_pos h, ih, beq_iff_eq.mp h, List.mem_cons (l := b :: rest)]
    exact (or_iff_right_of_imp fun e => e ▸ List.mem_cons_self).symm
  | case4 a b rest h ih => rw [dedupAdj, if_neg h, List.mem_cons, ih, ← List.mem_cons]

theorem mem_sortDedup (l : List Bytes) (x : Bytes) : x ∈ sortDedup l ↔ x ∈ l := by
  unfold sortDedup
  rw [mem_dedupAdj, mem_isort]

theorem mem_finishProteins {α : Type} [DecidableEq α] {l : List (Pep α)} {e : Pep α}
    (he : e ∈ mergeFuel l.length l) (x : Bytes) :
    x ∈ (finishProteins e).proteins ↔ ∃ s ∈ l, keyOf s = keyOf e ∧ x ∈ s.proteins := by
  rw [finishProteins, mem_sortDedup, mergeFuel_proteins he]
  simp only [List.mem_flatMap, List.mem_filter, sameKey_iff, and_assoc]

theorem mem_emit {gen : Bool} {T : List (List Nat)} {f q : Pep Rat} :
    q ∈ emit gen T f ↔ (q = f ∨ (gen = true ∧ q = reverse f)) ∧ (q.decoy = true → q.sequence ∉ T) := by
  unfold emit
  rw [List.mem_filter]
  refine and_congr ?_ ?_
  · cases gen <;> simp [or_comm]
  · cases q.decoy <;> simp

def mirrorKey {α : Type} (k : α × List Nat × List α × Option α × Option α) :
    α × List Nat × List α × Option α × Option α :=
  (k.1, mirrorList k.2.1, mirrorList k.2.2.1, k.2.2.2.1, k.2.2.2.2)

theorem keyOf_mirror {α : Type} (p : Pep α) : keyOf (mirror p) = mirrorKey (keyOf p) := rfl

theorem mirrorKey_mirrorKey {α : Type} (a : α × List Nat × List α × Option α × Option α) :
    mirrorKey (mirrorKey a) = a := by
  simp [mirrorKey, mirrorList_mirrorList]

theorem mirrorKey_inj {α : Type} {a b : α × List Nat × List α × Option α × Option α}
    (h : mirrorKey a = mirrorKey b) : a = b := by
  rw [← mirrorKey_mirrorKey a, h, mirrorKey_mirrorKey]

theorem digestRecs_some {cfg : Cfg Rat} {recs : List (Bytes × Bytes)} {db : List (Pep Rat)}
    (h : digestRecs cfg recs = some db) :
    ∃ groups, groupDigests (fastaDigest cfg.par cfg.tag cfg.gen recs) = some groups ∧
      reorder (buildForms cfg groups) = db :=
  Option.map_eq_some_iff.mp h

theorem mem_reorder {l : List (Pep Rat)} {e : Pep Rat} :
    e ∈ reorder l ↔ ∃ e' ∈ mergeFuel l.length l, finishProteins e' = e :=
  List.mem_map

theorem mem_buildForms {cfg : Cfg Rat} {groups : List Group} {q : Pep Rat} :
    q ∈ buildForms cfg groups ↔
      ∃ g ∈ groups, ∃ f ∈ groupForms cfg g, q ∈ emit cfg.gen (targetSet groups) f := by
  unfold buildForms
  simp only [List.mem_flatMap]

theorem mem_targetSet {groups : List Group} {x : List Nat} :
    x ∈ targetSet groups ↔ ∃ g ∈ groups, g.ref.decoy = false ∧ natSeq g.ref.seq = x := by
  simp only [targetSet, List.mem_map, List.mem_filter, Bool.not_eq_true', and_assoc]

/-- the target `DashSet` holds exactly the digest sequences of the untagged FASTA records -/
theorem targetSet_iff {cfg : Cfg Rat} {recs : List (Bytes × Bytes)} {groups : List Group}
    (hg : groupDigests (fastaDigest cfg.par cfg.tag cfg.gen recs) = some groups) (x : List Nat) :
    x ∈ targetSet groups ↔ x ∈ specTargets cfg.par cfg.tag recs := by
  obtain ⟨g1, g3⟩ := groupDigests_spec hg
  rw [mem_targetSet]
  unfold specTargets
  simp only [List.mem_flatMap, List.mem_filter, List.mem_map, Bool.not_eq_true']
  constructor
  · rintro ⟨g, hgm, hd, rfl⟩
    obtain ⟨r, hr, c, hc, hgr, _⟩ := mem_fastaDigest.mp (g1 g hgm).1
    rw [hgr] at hd ⊢
    exact ⟨r, ⟨hr, hd⟩, c, hc, rfl⟩
  · rintro ⟨r, ⟨hr, hct⟩, c, hc, rfl⟩
    obtain ⟨g, hgm, hs, _⟩ := g3 _ (mem_fastaDigest.mpr ⟨r, hr, c, hc, rfl, fun _ => hct⟩)
    rw [sameGroup_iff, hct] at hs
    exact ⟨g, hgm, hs.1.symm, by rw [← hs.2.2]⟩

end Sage.C07
