import SageModel.Model.C03
import SageModel.Model.C19
import SageModel.Model.Select
import SageModel.Lemmas.Pages
import Mathlib.Order.Defs.LinearOrder
import Mathlib.Order.Basic

/-!
# The two loops of `binary_search_slice`

`binary_search_slice` is modelled three times: in `Model/C03.lean` (fragment index), in `Model/C19.lean` (LFQ feature
map; a verbatim copy) and in `Model/Select.lean` (peak selection; its right walk tests `high < x` where the others
test `x ≤ high`). The facts about the two `while` loops are proved here once, for C03's copy; the other two copies
are shown equal to it (`C19.bss_eq`, `Select.bss_eq`), so their properties are read off these.

Facts are stated with `l[i]? = some x`: what the model matches on, and what `SortedArr` speaks.
-/

namespace Sage.C03
variable {α : Type}

theorem lt_size_of_getElem? {l : Array α} {i : Nat} {x : α} (h : l[i]? = some x) : i < l.size :=
  let ⟨hi, _⟩ := Array.getElem_of_getElem? h; hi

theorem sortedArr_of_pairwise [LinearOrder α] (l : List α) (h : l.Pairwise (· ≤ ·)) : SortedArr l.toArray := by
  intro i j x y hij hx hy
  rw [List.getElem?_toArray] at hx hy
  exact rel_of_pairwise_getElem? le_refl h hij hx hy

theorem le_of_exitLo_succ [LinearOrder α] {l : Array α} (hl : SortedArr l) {lo : α} {L : Nat}
    (hL : L = 0 ∨ ∃ y, l[L]? = some y ∧ y < lo) {i : Nat} (h : ∀ y, l[i+1]? = some y → lo ≤ y) : L ≤ i := by
  rcases hL with h0 | ⟨y, hy, hlt⟩
  · exact h0 ▸ Nat.zero_le i
  · refine Nat.le_of_not_lt fun hc => ?_
    have hs := Array.getElem?_eq_getElem (Nat.lt_of_le_of_lt hc (lt_size_of_getElem? hy))
    exact absurd ((h _ hs).trans (hl (i+1) L _ y hc hs hy)) (not_le.2 hlt)

theorem le_of_exitLo [LinearOrder α] {l : Array α} (hl : SortedArr l) {lo : α} {L : Nat}
    (hL : L = 0 ∨ ∃ y, l[L]? = some y ∧ y < lo) {i : Nat} {x : α} (hx : l[i]? = some x) (h : lo ≤ x) :
    L ≤ i :=
  le_of_exitLo_succ hl hL fun y hy => h.trans (hl i (i+1) x y (Nat.le_succ i) hx hy)

theorem lt_of_exitHi [LinearOrder α] {l : Array α} (hl : SortedArr l) {hi : α} {R : Nat}
    (hR : l.size ≤ R ∨ ∃ y, l[R]? = some y ∧ hi < y) {i : Nat} {x : α} (hx : l[i]? = some x) (h : x ≤ hi) :
    i < R := by
  rcases hR with hge | ⟨y, hy, hlt⟩
  · exact Nat.lt_of_lt_of_le (lt_size_of_getElem? hx) hge
  · exact Nat.lt_of_not_le fun hc => absurd ((hl R i y x hc hy hx).trans h) (not_le.2 hlt)

/-- `hs`: the start is at most `len - 1` (`idx.saturating_sub(1)` of a binary-search answer `≤ len`) -/
theorem walkLeft_exit [LinearOrder α] (l : Array α) (low : α) (s : Nat) (hs : s ≤ l.size - 1) :
    walkLeft l low s = 0 ∨ ∃ x, l[walkLeft l low s]? = some x ∧ x < low := by
  fun_induction walkLeft l low s with
  | case1 => exact .inl rfl
  | case2 n x hx hlt => exact .inr ⟨x, hx, hlt⟩
  | case3 n x hx hnlt ih => exact ih (Nat.le_of_succ_le hs)
  | case4 n hx =>
    have := Array.getElem?_eq_none_iff.1 hx
    omega

theorem walkLeft_between [LinearOrder α] (l : Array α) (low : α) (s : Nat)
    (i : Nat) (h1 : walkLeft l low s < i) (h2 : i ≤ s) (y : α) (hy : l[i]? = some y) : low ≤ y := by
  fun_induction walkLeft l low s with
  | case1 => exact absurd h1 (Nat.not_lt.2 h2)
  | case2 n x hx hlt => exact absurd h1 (Nat.not_lt.2 h2)
  | case3 n x hx hnlt ih =>
    rcases Nat.eq_or_lt_of_le h2 with rfl | h
    · cases hx.symm.trans hy
      exact not_lt.1 hnlt
    · exact ih h1 (Nat.le_of_lt_succ h)
  | case4 n hx => exact absurd h1 (Nat.not_lt.2 h2)

theorem walkRight_exit [LinearOrder α] (l : Array α) (high : α) (idx f : Nat) (hf : l.size ≤ idx + f) :
    idx ≤ walkRight l high idx f ∧
      (l.size ≤ walkRight l high idx f ∨ ∃ x, l[walkRight l high idx f]? = some x ∧ high < x) := by
  fun_induction walkRight l high idx f with
  | case1 idx => exact ⟨Nat.le_refl _, .inl hf⟩
  | case2 idx f x hx hle ih =>
    have := ih (by rwa [Nat.add_assoc, Nat.add_comm 1])
    exact ⟨Nat.le_of_succ_le this.1, this.2⟩
  | case3 idx f x hx hnle => exact ⟨Nat.le_refl _, .inr ⟨x, hx, not_le.1 hnle⟩⟩
  | case4 idx f hx => exact ⟨Nat.le_refl _, .inl (Array.getElem?_eq_none_iff.1 hx)⟩

theorem walkRight_between [LinearOrder α] (l : Array α) (high : α) (idx f : Nat)
    (i : Nat) (h1 : idx ≤ i) (h2 : i < walkRight l high idx f) (y : α) (hy : l[i]? = some y) : y ≤ high := by
  fun_induction walkRight l high idx f with
  | case1 idx => exact absurd h2 (Nat.not_lt.2 h1)
  | case2 idx f x hx hle ih =>
    rcases Nat.eq_or_lt_of_le h1 with rfl | h
    · cases hx.symm.trans hy
      exact hle
    · exact ih h h2
  | case3 idx f x hx hnle => exact absurd h2 (Nat.not_lt.2 h1)
  | case4 idx f hx => exact absurd h2 (Nat.not_lt.2 h1)

theorem bss_exit [LinearOrder α] (l : Array α) (lo hi : α) (rLo rHi : Nat) (hr : rLo ≤ l.size) :
    ((bss l lo hi rLo rHi).1 = 0 ∨ ∃ x, l[(bss l lo hi rLo rHi).1]? = some x ∧ x < lo) ∧
    ((bss l lo hi rLo rHi).2 = l.size ∨ ∃ y, l[(bss l lo hi rLo rHi).2]? = some y ∧ hi < y) ∧
    (bss l lo hi rLo rHi).1 ≤ (bss l lo hi rLo rHi).2 := by
  have hL : walkLeft l lo (rLo - 1) ≤ l.size :=
    Nat.le_trans (walkLeft_le' l lo _) (Nat.le_trans (Nat.sub_le _ _) hr)
  have hR := walkRight_exit l hi (rHi + walkLeft l lo (rLo - 1)) _ (Nat.sub_le_iff_le_add'.1 (Nat.le_refl _))
  refine ⟨walkLeft_exit l lo (rLo - 1) (Nat.sub_le_sub_right hr 1), ?_,
    Nat.le_min.2 ⟨Nat.le_trans (Nat.le_add_left _ _) hR.1, hL⟩⟩
  show min _ _ = _ ∨ ∃ x, l[min _ _]? = _ ∧ _
  rcases hR.2 with h | ⟨x, hx, hlt⟩
  · exact .inl (Nat.min_eq_right h)
  · rw [Nat.min_eq_left (Nat.le_of_lt (lt_size_of_getElem? hx))]
    exact .inr ⟨x, hx, hlt⟩

end Sage.C03

namespace Sage.C19
variable {α : Type}

theorem walkLeft_eq [LT α] [DecidableLT α] (l : Array α) (low : α) (s : Nat) :
    walkLeft l low s = C03.walkLeft l low s := by
  induction s with
  | zero => rfl
  | succ i ih => simp only [walkLeft, C03.walkLeft, ih]; cases l[i+1]? <;> rfl

theorem walkRight_eq [LE α] [DecidableLE α] (l : Array α) (high : α) (idx f : Nat) :
    walkRight l high idx f = C03.walkRight l high idx f := by
  induction f generalizing idx with
  | zero => rfl
  | succ f ih => simp only [walkRight, C03.walkRight, ih]; cases l[idx]? <;> rfl

theorem bss_eq [LT α] [DecidableLT α] [LE α] [DecidableLE α] (l : Array α) (lo hi : α) (rLo rHi : Nat) :
    bss l lo hi rLo rHi = C03.bss l lo hi rLo rHi := by
  simp only [bss, C03.bss, walkLeft_eq, walkRight_eq]

end Sage.C19

namespace Sage.Select
variable {α : Type}

theorem walkLeft_eq [LT α] [DecidableLT α] (l : Array α) (low : α) (s : Nat) :
    walkLeft l low s = C03.walkLeft l low s := by
  induction s with
  | zero => rfl
  | succ i ih => simp only [walkLeft, C03.walkLeft, ih]; cases l[i+1]? <;> rfl

/-- `high < x` and `¬ x ≤ high` are the same test in a linear order -/
theorem walkRight_eq [LinearOrder α] (l : Array α) (high : α) (idx f : Nat) :
    walkRight l high idx f = C03.walkRight l high idx f := by
  induction f generalizing idx with
  | zero => rfl
  | succ f ih =>
    simp only [walkRight, C03.walkRight, ih]
    cases l[idx]? with
    | none => rfl
    | some x => by_cases h : x ≤ high <;> simp [h, not_lt.mpr, not_le.mp]

theorem bss_eq [LinearOrder α] (l : Array α) (lo hi : α) (rLo rHi : Nat) :
    bss l lo hi rLo rHi = C03.bss l lo hi rLo rHi := by
  simp only [bss, C03.bss, walkLeft_eq, walkRight_eq]

end Sage.Select
