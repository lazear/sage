import Mathlib.Data.List.Basic
import Mathlib.Data.List.Perm.Basic
import Mathlib.Order.Defs.LinearOrder

/-!
# Lists cut into pages of a fixed size

`IndexedDatabase` (C03) and the LFQ `FeatureMap` (C19) both store a sorted list in pages of `B` consecutive elements,
page `p` being `(l.drop (p*B)).take B`. The list facts both invariants rest on: pages and their concatenation, pages
re-sorted in place (`pages_perm`), sortedness read by index (`rel_of_pairwise_getElem?`) and produced by a merge sort
on a key (`pairwise_mergeSort_key`), and the fact that lets a search cut a page down to the index range a binary
search returns (`filter_drop_take`).
-/

namespace Sage

theorem flatMap_chunks_take {β : Type} (l : List β) (B n : Nat) :
    (List.range n).flatMap (fun p => (l.drop (p*B)).take B) = l.take (n*B) := by
  induction n with
  | zero => simp
  | succ n ih =>
    rw [List.range_succ, List.flatMap_append, ih, List.flatMap_singleton, Nat.succ_mul, List.take_add]

theorem flatMap_chunks {β : Type} (l : List β) (B n : Nat) (h : l.length ≤ n*B) :
    (List.range n).flatMap (fun p => (l.drop (p*B)).take B) = l := by
  rw [flatMap_chunks_take, List.take_of_length_le h]

theorem length_flatMap_const {β : Type} (g : Nat → List β) (n B : Nat) (h : ∀ p < n, (g p).length = B) :
    ((List.range n).flatMap g).length = n * B := by
  induction n with
  | zero => simp
  | succ n ih =>
    rw [List.range_succ, List.flatMap_append, List.length_append, ih (fun p hp => h p (Nat.lt_succ_of_lt hp)),
      List.flatMap_singleton, h n (Nat.lt_succ_self n), Nat.succ_mul]

theorem chunk_flatMap {β : Type} (g : Nat → List β) (B : Nat) : ∀ (n : Nat),
    (∀ p, p + 1 < n → (g p).length = B) → (∀ p, p < n → (g p).length ≤ B) →
    ∀ p, p < n → (((List.range n).flatMap g).drop (p*B)).take B = g p := by
  intro n
  induction n with
  | zero => intro _ _ p hp; exact absurd hp (Nat.not_lt_zero p)
  | succ n ih =>
    intro h1 h2 p hp
    have hlen : ((List.range n).flatMap g).length = n * B :=
      length_flatMap_const g n B (fun q hq => h1 q (Nat.succ_lt_succ hq))
    rw [List.range_succ, List.flatMap_append, List.flatMap_singleton]
    rcases Nat.lt_succ_iff_lt_or_eq.1 hp with hpn | rfl
    · have hle : p * B + B ≤ n * B := Nat.succ_mul p B ▸ Nat.mul_le_mul_right B hpn
      rw [List.drop_append_of_le_length (hlen ▸ Nat.le_of_add_right_le hle),
        List.take_append_of_le_length (by rw [List.length_drop, hlen]; exact Nat.le_sub_of_add_le' hle)]
      exact ih (fun q hq => h1 q (Nat.lt_succ_of_lt hq)) (fun q hq => h2 q (Nat.lt_succ_of_lt hq)) p hpn
    · rw [List.drop_left' hlen]
      exact List.take_of_length_le (h2 p hp)

theorem pages_perm {β : Type} (l : List β) (B n : Nat) (hn : l.length ≤ n * B)
    (hpos : ∀ p, p < n → p * B < l.length) (g : Nat → List β)
    (hg : ∀ p, (g p).Perm ((l.drop (p*B)).take B)) :
    ((List.range n).flatMap g).Perm l ∧ ∀ p, (((List.range n).flatMap g).drop (p*B)).take B = g p := by
  have hperm : ((List.range n).flatMap g).Perm l :=
    (List.Perm.flatMap_left _ fun p _ => hg p).trans (.of_eq (flatMap_chunks l B n hn))
  have hglen : ∀ q, (g q).length = min B (l.length - q * B) := fun q => by
    rw [(hg q).length_eq, List.length_take, List.length_drop]
  refine ⟨hperm, fun p => ?_⟩
  rcases Nat.lt_or_ge p n with hp | hp
  · refine chunk_flatMap g B n (fun q hq => ?_) (fun q _ => ?_) p hp
    · rw [hglen]
      exact Nat.min_eq_left (Nat.le_sub_of_add_le' (Nat.succ_mul q B ▸ Nat.le_of_lt (hpos (q + 1) hq)))
    · rw [hglen]
      exact Nat.min_le_left _ _
  · -- past the last page both sides are empty
    have hle : l.length ≤ p * B := Nat.le_trans hn (Nat.mul_le_mul_right B hp)
    have hnil : ∀ {m : List β}, m.length ≤ p * B → (m.drop (p*B)).take B = [] := fun h => by
      rw [List.drop_eq_nil_of_le h, List.take_nil]
    rw [hnil (hperm.length_eq ▸ hle)]
    exact (hnil hle ▸ hg p).eq_nil.symm

theorem rel_of_pairwise_getElem? {β : Type} {R : β → β → Prop} (hr : ∀ a, R a a) {l : List β}
    (h : l.Pairwise R) {i j : Nat} {a b : β} (hij : i ≤ j) (ha : l[i]? = some a) (hb : l[j]? = some b) :
    R a b := by
  rcases Nat.lt_or_eq_of_le hij with hlt | rfl
  · obtain ⟨hi, rfl⟩ := List.getElem?_eq_some_iff.1 ha
    obtain ⟨hj, rfl⟩ := List.getElem?_eq_some_iff.1 hb
    exact List.pairwise_iff_getElem.1 h i j hi hj hlt
  · cases ha.symm.trans hb
    exact hr a

theorem pairwise_mergeSort_key {β κ : Type} [LinearOrder κ] (key : β → κ) (l : List β) :
    (l.mergeSort fun a b => decide (key a ≤ key b)).Pairwise fun a b => key a ≤ key b :=
  (List.pairwise_mergeSort (le := fun a b => decide (key a ≤ key b))
    (fun _ _ _ h1 h2 => decide_eq_true (le_trans (of_decide_eq_true h1) (of_decide_eq_true h2)))
    (fun a b => by simpa using le_total (key a) (key b)) l).imp of_decide_eq_true

theorem filter_drop_take {β : Type} (s : List β) (P : β → Bool) (a b : Nat)
    (h : ∀ i x, s[i]? = some x → P x = true → a ≤ i ∧ i < b) :
    ((s.drop a).take (b - a)).filter P = s.filter P := by
  have h1 : (s.take a).filter P = [] := by
    refine List.filter_eq_nil_iff.2 fun x hx hp => ?_
    obtain ⟨i, hi⟩ := List.mem_iff_getElem?.1 hx
    rw [List.getElem?_take] at hi
    split at hi
    · exact absurd (h i x hi hp).1 (Nat.not_le.2 ‹_›)
    · cases hi
  have h2 : ((s.drop a).drop (b - a)).filter P = [] := by
    refine List.filter_eq_nil_iff.2 fun x hx hp => ?_
    obtain ⟨i, hi⟩ := List.mem_iff_getElem?.1 hx
    rw [List.getElem?_drop, List.getElem?_drop] at hi
    have := h _ x hi hp
    omega
  conv_rhs => rw [← List.take_append_drop a s, ← List.take_append_drop (b - a) (s.drop a)]
  rw [List.filter_append, List.filter_append, h1, h2, List.nil_append, List.append_nil]

end Sage
