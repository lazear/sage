import SageModel.Lemmas.Bss
import SageModel.Lemmas.Pages
import Mathlib.Order.Defs.LinearOrder
import Mathlib.Order.Basic
import Mathlib.Tactic.Order

/-!
# Lemmas about the model of `select_most_intense_peak`

The two walk loops of `binary_search_slice` cover every element of a sorted array that lies in `[lo, hi]`, for ANY
start indices (i.e. any answer of std's `binary_search_by`); `walkLeft`, `walkRight` and `bss` are equal to C03's
copies, whose loop facts (`Lemmas/Bss.lean`) are used. Hence the slice scanned by `select_most_intense_peak` contains
every in-window peak, and the result equals the linear scan over the whole peak list.
-/

namespace Sage.Select
variable {α : Type}

def SortedArr [LE α] (l : Array α) : Prop :=
  ∀ (i j : Nat) (x y : α), i ≤ j → l[i]? = some x → l[j]? = some y → x ≤ y

theorem left_covers [LinearOrder α] (l : Array α) (hl : SortedArr l) (low : α) (s : Nat) (hs : s < l.size)
    (i : Nat) (x : α) (hx : l[i]? = some x) (h : low ≤ x) : walkLeft l low s ≤ i :=
  walkLeft_eq l low s ▸ C03.le_of_exitLo hl (C03.walkLeft_exit l low s (Nat.le_sub_one_of_lt hs)) hx h

theorem right_covers [LinearOrder α] (l : Array α) (hl : SortedArr l) (high : α) (idx f : Nat)
    (hf : idx + f ≥ l.size) (i : Nat) (x : α) (hx : l[i]? = some x) (h : x ≤ high) :
    i < walkRight l high idx f :=
  walkRight_eq l high idx f ▸ C03.lt_of_exitHi hl (C03.walkRight_exit l high idx f hf).2 hx h

/-- `0 ≤ left ≤ right ≤ len` whenever the first binary search answers an index `≤ len` — so the slice
    expression `peaks[i..j]` of the Rust code cannot panic -/
theorem bss_le [LinearOrder α] (l : Array α) (lo hi : α) (rLo rHi : Nat) (hr : rLo ≤ l.size) :
    (bss l lo hi rLo rHi).1 ≤ (bss l lo hi rLo rHi).2 ∧ (bss l lo hi rLo rHi).2 ≤ l.size :=
  bss_eq l lo hi rLo rHi ▸ ⟨(C03.bss_exit l lo hi rLo rHi hr).2.2, Nat.min_le_right ..⟩

/-- the range returned by `binary_search_slice` contains every element of `[lo, hi]`, whatever the two
    binary searches answered (`rLo ≤ len` is all that is used) -/
theorem bss_covers [LinearOrder α] (l : Array α) (hl : SortedArr l) (lo hi : α) (rLo rHi : Nat)
    (hr : rLo ≤ l.size) (i : Nat) (x : α) (hx : l[i]? = some x) (h1 : lo ≤ x) (h2 : x ≤ hi) :
    (bss l lo hi rLo rHi).1 ≤ i ∧ i < (bss l lo hi rLo rHi).2 :=
  have ⟨hL, hR, _⟩ := C03.bss_exit l lo hi rLo rHi hr
  bss_eq l lo hi rLo rHi ▸ ⟨C03.le_of_exitLo hl hL hx h1, C03.lt_of_exitHi hl (hR.imp_left Eq.ge) hx h2⟩

theorem binLoop_lt [LinearOrder α] (l : Array α) (q : α) (n fuel size base : Nat)
    (h1 : 1 ≤ size) (h2 : base + size ≤ n) : binLoop l q fuel size base < n := by
  induction fuel generalizing size base with
  | zero => exact Nat.lt_of_lt_of_le (Nat.lt_add_of_pos_right h1) h2
  | succ f ih =>
    rw [binLoop]
    split
    · have hhalf : size / 2 < size := Nat.div_lt_self h1 (by decide)
      have h3 : base + size / 2 + (size - size / 2) ≤ n := by
        rwa [Nat.add_assoc, Nat.add_sub_cancel' hhalf.le]
      -- the next base is `base` or `mid`
      refine ih _ _ (Nat.sub_pos_of_lt hhalf) (Nat.le_trans (Nat.add_le_add_right ?_ _) h3)
      split
      · split
        · exact Nat.le_add_right ..
        · exact Nat.le_refl _
      · exact Nat.le_add_right ..
    · exact Nat.lt_of_lt_of_le (Nat.lt_add_of_pos_right h1) h2

theorem binSearchBy_le [LinearOrder α] (l : Array α) (q : α) : binSearchBy l q ≤ l.size := by
  simp only [binSearchBy]
  split
  · exact Nat.zero_le _
  next h =>
    have := binLoop_lt l q l.size l.size l.size 0 (Nat.pos_of_ne_zero h) (Nat.zero_add _).le
    generalize binLoop l q l.size l.size 0 = base at this
    split
    · split
      · exact this.le
      · exact this
      · exact this.le
    · exact this.le

/-- binary search is irrelevant: for peaks sorted by mass and any answers of the two binary
    searches (`rLo ≤ len`), `select_most_intense_peak` equals the linear scan of the whole list -/
theorem selectCore_eq_scan [LinearOrder α] [OfNat α 0] (peaks : List (Peak α)) (lo hi : α) (rLo rHi : Nat)
    (hs : peaks.Pairwise (fun a b => a.mass ≤ b.mass)) (hr : rLo ≤ peaks.length) :
    selectCore peaks lo hi rLo rHi = scan peaks lo hi := by
  unfold selectCore scan
  simp only
  rw [filter_drop_take]
  intro k x hx hp
  simp only [inWin, Bool.and_eq_true, decide_eq_true_eq] at hp
  exact bss_covers _ (C03.sortedArr_of_pairwise _ (List.pairwise_map.mpr hs)) lo hi rLo rHi (by simpa using hr) k x.mass
    (by simp [hx]) hp.1 hp.2

theorem selectIn_eq_scan [LinearOrder α] [OfNat α 0] (peaks : List (Peak α)) (lo hi : α)
    (hs : peaks.Pairwise (fun a b => a.mass ≤ b.mass)) :
    selectIn peaks lo hi = scan peaks lo hi :=
  selectCore_eq_scan _ _ _ _ _ hs (by simpa using binSearchBy_le (peaks.map (·.mass)).toArray lo)

/-- invariant of the `for` loop, started from any state `(b, m)`: `best_peak` is still `b` and everything seen was
    below `m`, or it is the last of the most intense peaks seen -/
theorem scan_fold [LinearOrder α] (W : List (Peak α)) (b : Option (Peak α)) (m : α) :
    ((W.foldl scanStep (b, m)).1 = b ∧ ∀ q ∈ W, q.intensity < m) ∨
    (∃ p, (W.foldl scanStep (b, m)).1 = some p ∧ m ≤ p.intensity ∧ (∀ q ∈ W, q.intensity ≤ p.intensity) ∧
      ∃ W1 W2, W = W1 ++ p :: W2 ∧ ∀ q ∈ W2, q.intensity < p.intensity) := by
  induction W generalizing b m with
  | nil => exact .inl ⟨rfl, fun _ h => nomatch h⟩
  | cons x xs ih =>
    rw [List.foldl_cons, scanStep]
    split
    next hx =>
      -- `x` is taken; it stays the answer unless a later peak replaces it
      rcases ih (some x) x.intensity with ⟨h1, h3⟩ | ⟨p, h1, h3, h4, W1, W2, rfl, h6⟩
      · exact .inr ⟨x, h1, hx, List.forall_mem_cons.mpr ⟨le_refl _, fun q hq => (h3 q hq).le⟩, [], xs, rfl, h3⟩
      · exact .inr ⟨p, h1, hx.trans h3, List.forall_mem_cons.mpr ⟨h3, h4⟩, x :: W1, W2, rfl, h6⟩
    next hx =>
      have hxm : x.intensity < m := lt_of_not_ge hx
      rcases ih b m with ⟨h1, h3⟩ | ⟨p, h1, h3, h4, W1, W2, rfl, h6⟩
      · exact .inl ⟨h1, List.forall_mem_cons.mpr ⟨hxm, h3⟩⟩
      · exact .inr ⟨p, h1, h3, List.forall_mem_cons.mpr ⟨(hxm.trans_le h3).le, h4⟩, x :: W1, W2, rfl, h6⟩

theorem scan_spec [LinearOrder α] [OfNat α 0] (peaks : List (Peak α)) (lo hi : α) :
    (scan peaks lo hi = none ∧ ∀ q ∈ inWindow peaks lo hi, q.intensity < 0) ∨
    (∃ p, scan peaks lo hi = some p ∧ (0 : α) ≤ p.intensity ∧
      (∀ q ∈ inWindow peaks lo hi, q.intensity ≤ p.intensity) ∧
      ∃ W1 W2, inWindow peaks lo hi = W1 ++ p :: W2 ∧ ∀ q ∈ W2, q.intensity < p.intensity) :=
  scan_fold (peaks.filter (inWin lo hi)) none 0

theorem mem_inWindow [LinearOrder α] (peaks : List (Peak α)) (lo hi : α) (p : Peak α) :
    p ∈ inWindow peaks lo hi ↔ p ∈ peaks ∧ lo ≤ p.mass ∧ p.mass ≤ hi := by
  simp [inWindow, inWin]

theorem scan_filter [LinearOrder α] [OfNat α 0] {keep : Peak α → Bool} {peaks : List (Peak α)} {lo hi : α}
    (h : ∀ p ∈ peaks, inWin lo hi p = true → keep p = true) :
    scan (peaks.filter keep) lo hi = scan peaks lo hi := by
  have : peaks.filter (fun p => inWin lo hi p && keep p) = peaks.filter (inWin lo hi) :=
    List.filter_congr fun p hp => by cases hw : inWin lo hi p <;> [rfl; exact h p hp hw]
  unfold scan
  rw [List.filter_filter, this]

/-- the loop keeps `max_int` equal to the intensity of `best_peak` (0 while there is none), and `max_int` is the
    running maximum -/
theorem scan_fold_value [LinearOrder α] [OfNat α 0] (W : List (Peak α)) (st : Option (Peak α) × α)
    (h : intensityOr0 st.1 = st.2) :
    intensityOr0 (W.foldl scanStep st).1 = (W.map (·.intensity)).foldl max st.2 := by
  induction W generalizing st with
  | nil => exact h
  | cons x xs ih =>
    rw [List.foldl_cons, List.map_cons, List.foldl_cons, scanStep]
    split
    next hx => rw [ih _ rfl, max_eq_right hx]
    next hx => rw [ih _ h, max_eq_left (le_of_not_ge hx)]

theorem scan_value [LinearOrder α] [OfNat α 0] (peaks : List (Peak α)) (lo hi : α) :
    intensityOr0 (scan peaks lo hi) = ((inWindow peaks lo hi).map (·.intensity)).foldl max 0 :=
  scan_fold_value _ (none, 0) rfl

end Sage.Select
