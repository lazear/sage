import SageModel.Lemmas.C14XQ
import Mathlib.Data.List.Basic

/-!
# C14 — the model at `XQ` is `some` of the model at `Rat` unless it divides by zero

`Lifts F Fq`: the transcendental parameters at `XQ` are the strict liftings of those at `Rat`
(finite in, finite out — no overflow; `Fq.exp` MAY return 0, which is how underflow is modelled;
non-finite in, non-finite out for `exp`). Under it every piece of the model at `XQ` is `some` of the
same piece at `Rat`, or `none` because a divisor is 0: hence the exact "non-finite iff …" statements.
-/

namespace Sage.C14

structure Lifts (F : Fns XQ) (Fq : Fns Rat) : Prop where
  exp : ∀ x : Rat, F.exp (some x) = some (Fq.exp x)
  exp_none : F.exp none = none
  sqrt : ∀ x : Rat, F.sqrt (some x) = some (Fq.sqrt x)
  powf : ∀ a b : Rat, F.powf (some a) (some b) = some (Fq.powf a b)
  pi : F.pi = some Fq.pi

@[simp] theorem xq_none_add (a : XQ) : (none : XQ) + a = none := rfl
@[simp] theorem xq_add_none (a : XQ) : a + (none : XQ) = none := by cases a <;> rfl
@[simp] theorem xq_none_mul (a : XQ) : (none : XQ) * a = none := rfl
@[simp] theorem xq_mul_none (a : XQ) : a * (none : XQ) = none := by cases a <;> rfl
@[simp] theorem xq_none_sub (a : XQ) : (none : XQ) - a = none := rfl
@[simp] theorem xq_sub_none (a : XQ) : a - (none : XQ) = none := by cases a <;> rfl
@[simp] theorem xq_none_div (a : XQ) : (none : XQ) / a = none := rfl
@[simp] theorem xq_div_none (a : XQ) : a / (none : XQ) = none := by cases a <;> rfl
@[simp] theorem xq_neg_none : -(none : XQ) = none := rfl

@[simp] theorem ofNat_rat' (n : Nat) : (ofNat n : Rat) = (n : Rat) := rfl

theorem length_pos_rat {l : List Rat} (hl : l ≠ []) : (0 : Rat) < (l.length : Rat) :=
  Rat.natCast_pos.2 (List.length_pos_iff.2 hl)

theorem foldl_lift {g : XQ → XQ → XQ} {gq : Rat → Rat → Rat} (H : ∀ a x, g (some a) (some x) = some (gq a x))
    (l : List Rat) (a : Rat) : (l.map some).foldl g (some a) = some (l.foldl gq a) := by
  rw [List.foldl_map]
  exact List.foldl_hom some H

theorem sum_lift (l : List Rat) : sum (l.map some : List XQ) = some (sum l) :=
  foldl_lift (fun _ _ => rfl) l _

theorem mean_lift {l : List Rat} (hl : l ≠ []) : mean (l.map some : List XQ) = some (mean l) := by
  unfold mean
  rw [sum_lift, List.length_map]
  exact xq_div _ _ (length_pos_rat hl).ne'

theorem ssd_lift (m : Rat) (l : List Rat) : ssd (some m : XQ) (l.map some) = some (ssd m l) :=
  foldl_lift (fun _ _ => rfl) l _

variable {F : Fns XQ} {Fq : Fns Rat}

theorem std_lift (L : Lifts F Fq) {l : List Rat} (hl : l ≠ []) :
    std F.sqrt (l.map some : List XQ) = some (std Fq.sqrt l) := by
  unfold std
  simp only [mean_lift hl, ssd_lift, List.length_map, xq_ofNat]
  rw [xq_div _ _ (length_pos_rat hl).ne', L.sqrt]
  rfl

/-- the sample is given up to an equation so that `classOf_map` can be passed for a class of `build` -/
theorem kde_new_lift (L : Lifts F Fq) {s : List XQ} {l : List Rat} (hs : s = l.map some) (hl : l ≠ []) (adj : Rat) :
    Kde.new F s (some adj) =
      { sample := l.map some, bandwidth := some (Kde.new Fq l adj).bandwidth,
        constant := some (Kde.new Fq l adj).constant } := by
  subst hs
  unfold Kde.new
  simp only [std_lift L hl, List.length_map, xq_ofNat, ofNat_rat', L.pi]
  rw [xq_div _ _ (Nat.cast_ne_zero.2 (by decide : 3 ≠ 0)), xq_div _ _ (Nat.cast_ne_zero.2 (by decide : 5 ≠ 0)),
    xq_div _ _ (length_pos_rat hl).ne']
  simp only [L.powf, L.sqrt, xq_mul]

theorem kernel_lift (hexp : ∀ x : Rat, F.exp (some x) = some (Fq.exp x)) (z : Rat) :
    kernel F (some z : XQ) = some (kernel Fq z) := by
  unfold kernel sq
  rw [xq_ofNat, xq_ofNat, xq_div _ _ (Nat.cast_ne_zero.2 (by decide)), xq_neg, xq_mul, xq_mul]
  exact hexp _

theorem ksum_lift (hexp : ∀ x : Rat, F.exp (some x) = some (Fq.exp x)) (l : List Rat) {h : Rat} (hh : h ≠ 0)
    (x : Rat) (c : XQ) (cq : Rat) :
    Kde.ksum F { sample := l.map some, bandwidth := some h, constant := c } (some x) =
      some (Kde.ksum Fq { sample := l, bandwidth := h, constant := cq } x) :=
  foldl_lift (fun a xi => by simp only [xq_sub, xq_div _ _ hh, kernel_lift hexp, xq_add]) l _

theorem pdf_lift_of_ne (hexp : ∀ x : Rat, F.exp (some x) = some (Fq.exp x)) (l : List Rat) {h c : Rat}
    (hh : h ≠ 0) (hc : c ≠ 0) (x : Rat) :
    Kde.pdf F { sample := l.map some, bandwidth := some h, constant := some c } (some x) =
      some (Kde.pdf Fq { sample := l, bandwidth := h, constant := c } x) := by
  unfold Kde.pdf
  rw [ksum_lift hexp l hh x _ c, xq_div _ _ hc]

/-- with bandwidth 0 the first kernel argument is `(x − xᵢ)/0`, and `none` is absorbing -/
theorem ksum_zero_bandwidth (L : Lifts F Fq) {l : List Rat} (hl : l ≠ []) (x : Rat) (c : XQ) :
    Kde.ksum F { sample := l.map some, bandwidth := some 0, constant := c } (some x) = none := by
  cases l with
  | nil => exact absurd rfl hl
  | cons y ys =>
    have hk : kernel F (none : XQ) = none := by
      unfold kernel sq
      rw [xq_mul_none, xq_mul_none, L.exp_none]
    unfold Kde.ksum
    simp only [List.map_cons, List.foldl_cons, xq_sub, xq_div_zero, hk, xq_add_none]
    exact List.foldl_fixed' (fun _ => rfl) _

theorem pdf_lift (L : Lifts F Fq) {l : List Rat} (hl : l ≠ []) (h c x : Rat) :
    Kde.pdf F { sample := l.map some, bandwidth := some h, constant := some c } (some x) =
      if h = 0 ∨ c = 0 then none else some (Kde.pdf Fq { sample := l, bandwidth := h, constant := c } x) := by
  unfold Kde.pdf
  by_cases hh : h = 0
  · rw [hh, ksum_zero_bandwidth L hl, if_pos (Or.inl rfl)]
    rfl
  · rw [ksum_lift L.exp l hh x _ c, xq_div_eq]
    simp only [hh, false_or]

theorem bayes_none_fd (π ft : XQ) : bayes π none ft = none := by
  simp only [bayes, xq_none_mul, xq_add_none, xq_none_div]

theorem bayes_none_ft (π fd : XQ) : bayes π fd none = none := by
  simp only [bayes, xq_none_mul, xq_none_add, xq_div_none]

theorem bayes_xq (p a b : Rat) :
    bayes (some p : XQ) (some a) (some b) = if b * (1 - p) + a * p = 0 then none else some (bayes p a b) := rfl

theorem bayes_xq_eq_none {p a b : Rat} :
    bayes (some p : XQ) (some a) (some b) = none ↔ b * (1 - p) + a * p = 0 := by
  rw [bayes_xq]
  split_ifs with h <;> simp [h]

theorem classOf_map (b : Bool) (scores : List Rat) (decoys : List Bool) :
    classOf b (scores.map some : List XQ) decoys = (classOf b scores decoys).map some := by
  unfold classOf
  rw [List.zip_map_left, List.filter_map, List.map_map, List.map_map]
  rfl

theorem pi_lift (scores : List Rat) (decoys : List Bool) (hs : scores ≠ []) :
    (ofNat (classOf true (scores.map some) decoys).length : XQ) / ofNat (scores.map some).length =
      some ((ofNat (classOf true scores decoys).length : Rat) / ofNat scores.length) := by
  rw [classOf_map, List.length_map, List.length_map]
  exact xq_div _ _ (length_pos_rat hs).ne'

end Sage.C14
