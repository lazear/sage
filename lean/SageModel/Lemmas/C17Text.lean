import SageModel.Model.C17

/-!
# C17 — lemmas about the text layer of the MGF model

What `rustLines`, `trim` and `classify` do on text written the way the format intends: one line per
`\n`-terminated piece, and each line shape of the format classified as the `Line` it is meant to be, by
way of a table of keywords none of which is a prefix of another. `pf` (`str::parse::<f32>`) and `isNum`
(`char::is_numeric`) stay parameters; the only thing assumed of `isNum` is that the six capital letters
the keywords start with are not numeric.
-/

namespace Sage.C17

variable {ν : Type}

/-- true of `char::is_numeric` -/
def KeywordInitialsNotNumeric (isNum : Char → Bool) : Prop :=
  isNum 'B' = false ∧ isNum 'E' = false ∧ isNum 'P' = false ∧ isNum 'T' = false ∧ isNum 'C' = false ∧
  isNum 'R' = false

def initials : List Char := ['B', 'E', 'P', 'T', 'C', 'R']

theorem stripPrefix_append (p r : List Char) : stripPrefix p (p ++ r) = some r := by
  induction p with
  | nil => cases r <;> rfl
  | cons c p ih => rw [List.cons_append, stripPrefix, if_pos rfl, ih]

theorem stripPrefix_append_none {p q : List Char} (r : List Char) (h : stripPrefix p q = none)
    (h' : stripPrefix q p = none) : stripPrefix p (q ++ r) = none := by
  induction p generalizing q with
  | nil => cases q <;> cases h
  | cons a p ih =>
    cases q with
    | nil => cases h'
    | cons b q =>
      rw [stripPrefix] at h h'
      rw [List.cons_append, stripPrefix]
      split
      next hab => rw [if_pos hab] at h; rw [if_pos hab.symm] at h'; exact ih h h'
      next => rfl

theorem stripPrefix_cons_of_head_ne {a : Char} {l : List Char} (h : l.head? ≠ some a) (p : List Char) :
    stripPrefix (a :: p) l = none := by
  cases l with
  | nil => rfl
  | cons b l => exact if_neg fun hab => h (congrArg some hab.symm)

theorem findSome?_of_pairwise {α β : Type} {R : α → α → Prop} {g : α → Option β} {l : List α}
    (hp : l.Pairwise R) {a : α} (ha : a ∈ l) {b : β} (hb : g a = some b) (hR : ∀ x, R x a → g x = none) :
    l.findSome? g = some b := by
  induction hp with
  | nil => cases ha
  | cons hx _ ih =>
    rw [List.findSome?_cons]
    rcases List.mem_cons.1 ha with rfl | ha
    · rw [hb]
    · rw [hR _ (hx a ha)]; exact ih ha

theorem getD_findSome?_cons {α β : Type} (g : α → Option β) (a : α) (l : List α) (d : β) :
    ((a :: l).findSome? g).getD d = (g a).getD ((l.findSome? g).getD d) := by
  rw [List.findSome?_cons]
  cases g a <;> rfl

theorem ite_isSome_eq_getD {α β : Type} (o : Option α) (a x : β) :
    (if o.isSome then a else x) = (o.map fun _ => a).getD x := by
  cases o <;> rfl

/-- The matcher of `classify` is named, because a `match` written here would be another constant. -/
theorem match_eq_getD (o : Option (List Char)) (f : List Char → Line ν) (x : Line ν) :
    (classify.match_1 (fun _ => Line ν) o f fun _ => x) = (o.map f).getD x := by
  cases o <;> rfl

/-- the keywords in the order `classify` tests them -/
def keywordTable (pf : String → Option ν) : List (List Char × (List Char → Line ν)) :=
  [("BEGIN IONS".toList, fun _ => .beginIons), ("END IONS".toList, fun _ => .endIons),
   ("PEPMASS=".toList, fun r => .pepmass (tokAt pf (splitAsciiWs r) 0) (tokAt pf (splitAsciiWs r) 1)),
   ("TITLE=".toList, fun r => .title (String.ofList r)), ("CHARGE=".toList, fun r => .charge (chargeDigits r)),
   ("TOL=".toList, fun r => .tol (tokWhole pf r)), ("TOLU=".toList, fun r => .tolu (String.ofList r)),
   ("RTINSECONDS=".toList, fun r => .rt (tokWhole pf r))]

section classify
variable (pf : String → Option ν) (isNum : Char → Bool)

/-- The one place where the keywords are taken apart. The kernel is slow at decoding a string literal;
`String.toList_ofList` hands it the characters. -/
theorem keywords_spec :
    (((keywordTable pf).map Prod.fst).Pairwise fun p q => stripPrefix p q = none ∧ stripPrefix q p = none) ∧
    ∀ k ∈ (keywordTable pf).map Prod.fst, ∃ c ∈ initials, k = c :: k.tail := by
  simp only [keywordTable, List.map_cons, List.map_nil]
  repeat rw [String.toList_ofList]
  decide +kernel

/-- Both sides are rewritten to the same chain of `getD`s by lemmas about variables, so that the closing `rfl`
is syntactic: unfolding `stripPrefix` on a keyword would decode it. -/
theorem classify_eq_findSome? (line : List Char) (hn : isNum (line.headD (Char.ofNat 0)) = false) :
    classify pf isNum line =
      ((keywordTable pf).findSome? fun k => (stripPrefix k.1 line).map k.2).getD .other := by
  unfold classify keywordTable
  rw [if_neg (by rw [hn]; exact Bool.false_ne_true)]
  simp only [ite_isSome_eq_getD, match_eq_getD, getD_findSome?_cons]
  rfl

theorem classify_of_head (line : List Char) (hn : isNum (line.headD (Char.ofNat 0)) = false)
    (h : ∀ c ∈ initials, line.head? ≠ some c) :
    classify pf isNum line = .other := by
  rw [classify_eq_findSome? pf isNum line hn, List.findSome?_eq_none_iff.2]
  · rfl
  · intro k hk
    obtain ⟨c, hc, hkc⟩ := (keywords_spec pf).2 k.1 (List.mem_map_of_mem hk)
    rw [hkc, stripPrefix_cons_of_head_ne (h c hc)]
    rfl

variable (hk : KeywordInitialsNotNumeric isNum)
include hk

theorem classify_keyword (i : Nat) {k : List Char} {f : List Char → Line ν}
    (hi : (keywordTable pf)[i]? = some (k, f)) (rest : List Char) :
    classify pf isNum (k ++ rest) = f rest := by
  have hmem := List.mem_of_getElem? hi
  obtain ⟨c, hc, (hkc : k = c :: k.tail)⟩ := (keywords_spec pf).2 _ (List.mem_map_of_mem hmem)
  have hn : isNum ((k ++ rest).headD (Char.ofNat 0)) = false := by
    have : ∀ c ∈ initials, isNum c = false := by
      simpa only [KeywordInitialsNotNumeric, initials, List.forall_mem_cons, List.not_mem_nil, false_imp_iff,
        implies_true, and_true] using hk
    rw [hkc]
    exact this c hc
  rw [classify_eq_findSome? pf isNum _ hn,
    findSome?_of_pairwise (List.pairwise_map.1 (keywords_spec pf).1) hmem (b := f rest)
      (by rw [stripPrefix_append]; rfl) fun x hx => by rw [stripPrefix_append_none rest hx.1 hx.2]; rfl]
  rfl

theorem classify_begin (rest : List Char) : classify pf isNum ("BEGIN IONS".toList ++ rest) = .beginIons :=
  classify_keyword pf isNum hk 0 rfl rest

theorem classify_end (rest : List Char) : classify pf isNum ("END IONS".toList ++ rest) = .endIons :=
  classify_keyword pf isNum hk 1 rfl rest

theorem classify_title (rest : List Char) :
    classify pf isNum ("TITLE=".toList ++ rest) = .title (String.ofList rest) :=
  classify_keyword pf isNum hk 3 rfl rest

theorem classify_pepmass (rest : List Char) :
    classify pf isNum ("PEPMASS=".toList ++ rest) =
      .pepmass (tokAt pf (splitAsciiWs rest) 0) (tokAt pf (splitAsciiWs rest) 1) :=
  classify_keyword pf isNum hk 2 rfl rest

theorem classify_charge (rest : List Char) :
    classify pf isNum ("CHARGE=".toList ++ rest) = .charge (chargeDigits rest) :=
  classify_keyword pf isNum hk 4 rfl rest

theorem classify_tol (rest : List Char) :
    classify pf isNum ("TOL=".toList ++ rest) = .tol (tokWhole pf rest) :=
  classify_keyword pf isNum hk 5 rfl rest

theorem classify_tolu (rest : List Char) :
    classify pf isNum ("TOLU=".toList ++ rest) = .tolu (String.ofList rest) :=
  classify_keyword pf isNum hk 6 rfl rest

theorem classify_rt (rest : List Char) :
    classify pf isNum ("RTINSECONDS=".toList ++ rest) = .rt (tokWhole pf rest) :=
  classify_keyword pf isNum hk 7 rfl rest

end classify

/-- a CHARGE line without any ASCII digit lists no charge state at all -/
theorem classify_charge_no_digit (pf : String → Option ν) (isNum : Char → Bool)
    (hk : KeywordInitialsNotNumeric isNum) (rest : List Char) (hnd : ∀ c ∈ rest, c.isDigit = false) :
    classify pf isNum ("CHARGE=".toList ++ rest) = .charge [] := by
  rw [classify_charge pf isNum hk, chargeDigits,
    List.filterMap_eq_nil_iff.2 fun c hc => if_neg (by rw [hnd c hc]; exact Bool.false_ne_true)]

/-- a line whose first character is numeric is a peak line -/
theorem classify_peak (pf : String → Option ν) (isNum : Char → Bool) (c : Char) (rest : List Char)
    (hc : isNum c = true) :
    classify pf isNum (c :: rest) =
      .peak (tokAt pf (splitAsciiWs (c :: rest)) 0) (tokAt pf (splitAsciiWs (c :: rest)) 1) :=
  if_pos hc

/-- comment lines (`#`, `;`, `!`) mean nothing -/
theorem classify_comment (pf : String → Option ν) (isNum : Char → Bool) (c : Char) (rest : List Char)
    (hc : c = '#' ∨ c = ';' ∨ c = '!') (hn : isNum c = false) :
    classify pf isNum (c :: rest) = .other := by
  refine classify_of_head pf isNum _ hn ?_
  rw [List.head?_cons]
  rcases hc with rfl | rfl | rfl <;> decide +kernel

theorem classify_empty (pf : String → Option ν) (isNum : Char → Bool) (h0 : isNum (Char.ofNat 0) = false) :
    classify pf isNum [] = .other :=
  classify_of_head pf isNum [] h0 (by decide +kernel)

theorem splitAsciiWsAux_append (acc a rest : List Char) (ha : ∀ c ∈ a, isAsciiWs c = false) :
    splitAsciiWsAux acc (a ++ rest) = splitAsciiWsAux (a.reverse ++ acc) rest := by
  induction a generalizing acc with
  | nil => rfl
  | cons c a ih =>
    rw [List.cons_append, splitAsciiWsAux, if_neg (by rw [ha c List.mem_cons_self]; exact Bool.false_ne_true),
      ih _ fun c' hc' => ha c' (List.mem_cons_of_mem _ hc'), List.reverse_cons, List.append_assoc]
    rfl

theorem splitAsciiWs_one (a : List Char) (ha : ∀ c ∈ a, isAsciiWs c = false) (hne : a ≠ []) :
    splitAsciiWs a = [a] := by
  have h := splitAsciiWsAux_append [] a [] ha
  rw [List.append_nil, List.append_nil] at h
  rw [splitAsciiWs, h, splitAsciiWsAux, if_neg (by simpa using hne), List.reverse_reverse]

theorem splitAsciiWs_two (a b : List Char) (ha : ∀ c ∈ a, isAsciiWs c = false)
    (hb : ∀ c ∈ b, isAsciiWs c = false) (hane : a ≠ []) (hbne : b ≠ []) :
    splitAsciiWs (a ++ ' ' :: b) = [a, b] := by
  rw [splitAsciiWs, splitAsciiWsAux_append [] a _ ha, List.append_nil, splitAsciiWsAux, if_pos (by decide),
    if_neg (by simpa using hane), List.reverse_reverse, ← splitAsciiWs, splitAsciiWs_one b hb hbne]

/-- `PEPMASS=mz intensity` -/
theorem classify_pepmass_two (pf : String → Option ν) (isNum : Char → Bool) (hk : KeywordInitialsNotNumeric isNum)
    (a b : List Char) (ha : ∀ c ∈ a, isAsciiWs c = false) (hb : ∀ c ∈ b, isAsciiWs c = false)
    (hane : a ≠ []) (hbne : b ≠ []) :
    classify pf isNum ("PEPMASS=".toList ++ (a ++ ' ' :: b)) = .pepmass (tokOf pf a) (tokOf pf b) := by
  rw [classify_pepmass pf isNum hk, splitAsciiWs_two a b ha hb hane hbne]
  rfl

/-- `PEPMASS=mz` -/
theorem classify_pepmass_one (pf : String → Option ν) (isNum : Char → Bool) (hk : KeywordInitialsNotNumeric isNum)
    (a : List Char) (ha : ∀ c ∈ a, isAsciiWs c = false) (hane : a ≠ []) :
    classify pf isNum ("PEPMASS=".toList ++ a) = .pepmass (tokOf pf a) .absent := by
  rw [classify_pepmass pf isNum hk, splitAsciiWs_one a ha hane]
  rfl

/-- `mz intensity` -/
theorem classify_peak_two (pf : String → Option ν) (isNum : Char → Bool) (c : Char) (a b : List Char)
    (hc : isNum c = true) (ha : ∀ x ∈ c :: a, isAsciiWs x = false) (hb : ∀ x ∈ b, isAsciiWs x = false)
    (hbne : b ≠ []) :
    classify pf isNum (c :: a ++ ' ' :: b) = .peak (tokOf pf (c :: a)) (tokOf pf b) := by
  rw [List.cons_append, classify_peak pf isNum c _ hc, ← List.cons_append,
    splitAsciiWs_two (c :: a) b ha hb (List.cons_ne_nil c a) hbne]
  rfl

/-- `mz` alone: the intensity column is absent (the reader then stores intensity 1) -/
theorem classify_peak_one (pf : String → Option ν) (isNum : Char → Bool) (c : Char) (a : List Char)
    (hc : isNum c = true) (ha : ∀ x ∈ c :: a, isAsciiWs x = false) :
    classify pf isNum (c :: a) = .peak (tokOf pf (c :: a)) .absent := by
  rw [classify_peak pf isNum c _ hc, splitAsciiWs_one (c :: a) ha (List.cons_ne_nil c a)]
  rfl

theorem rustLinesAux_line (acc l rest : List Char) (hl : ∀ c ∈ l, c ≠ '\n') :
    rustLinesAux acc (l ++ '\n' :: rest) = finishLine (l.reverse ++ acc) :: rustLinesAux [] rest := by
  induction l generalizing acc with
  | nil => exact if_pos rfl
  | cons c l ih =>
    rw [List.cons_append, rustLinesAux, if_neg (hl c List.mem_cons_self),
      ih _ fun c' hc' => hl c' (List.mem_cons_of_mem _ hc'), List.reverse_cons, List.append_assoc]
    rfl

theorem finishLine_reverse (l : List Char) (h : l.getLast? ≠ some '\r') : finishLine l.reverse = l := by
  rw [← List.head?_reverse] at h
  unfold finishLine
  split
  next a heq => rw [heq] at h; exact absurd rfl h
  next => exact List.reverse_reverse l

/-- a text made of `\n`-terminated lines splits back into them -/
theorem rustLines_join (ls : List (List Char)) (hl : ∀ l ∈ ls, ∀ c ∈ l, c ≠ '\n')
    (hr : ∀ l ∈ ls, l.getLast? ≠ some '\r') :
    rustLines (ls.flatMap fun l => l ++ ['\n']) = ls := by
  unfold rustLines
  induction ls with
  | nil => rfl
  | cons l ls ih =>
    rw [List.flatMap_cons, List.append_assoc, List.singleton_append,
      rustLinesAux_line [] l _ (hl l List.mem_cons_self),
      ih (fun l' hl' => hl l' (List.mem_cons_of_mem _ hl')) (fun l' hl' => hr l' (List.mem_cons_of_mem _ hl')),
      List.append_nil, finishLine_reverse l (hr l List.mem_cons_self)]

theorem dropWhile_of_head {p : Char → Bool} {l : List Char} (h : ∀ c, l.head? = some c → p c = false) :
    l.dropWhile p = l := by
  cases l with
  | nil => rfl
  | cons c r => rw [List.dropWhile_cons, if_neg (by rw [h c rfl]; exact Bool.false_ne_true)]

theorem trim_id (l : List Char) (hf : ∀ c, l.head? = some c → isWs c = false)
    (hlast : ∀ c, l.getLast? = some c → isWs c = false) : trim l = l := by
  rw [trim, dropWhile_of_head hf, dropWhile_of_head (by rwa [List.head?_reverse]), List.reverse_reverse]

theorem finishLine_cr (l : List Char) : finishLine ((l ++ ['\r']).reverse) = l := by
  rw [List.reverse_append]
  exact List.reverse_reverse l

/-- the same for `\r\n`-terminated lines (a line may even end in `\r` itself: only one is dropped) -/
theorem rustLines_join_crlf (ls : List (List Char)) (hl : ∀ l ∈ ls, ∀ c ∈ l, c ≠ '\n') :
    rustLines (ls.flatMap fun l => l ++ ['\r', '\n']) = ls := by
  unfold rustLines
  induction ls with
  | nil => rfl
  | cons l ls ih =>
    have hl' : ∀ c ∈ l ++ ['\r'], c ≠ '\n' :=
      List.forall_mem_append.2 ⟨hl l List.mem_cons_self, List.forall_mem_singleton.2 (by decide)⟩
    rw [List.flatMap_cons, List.append_cons l '\r' ['\n'], List.append_assoc, List.singleton_append,
      rustLinesAux_line [] (l ++ ['\r']) _ hl', ih fun l' h => hl l' (List.mem_cons_of_mem _ h), List.append_nil,
      finishLine_cr]

/-- white space around a line (indentation, trailing blanks, Unicode spaces) is invisible to the reader -/
theorem trim_pad (pre l post : List Char) (hpre : ∀ c ∈ pre, isWs c = true) (hpost : ∀ c ∈ post, isWs c = true) :
    trim (pre ++ l ++ post) = trim l := by
  unfold trim
  rw [List.append_assoc, List.dropWhile_append_of_pos hpre, List.dropWhile_append]
  split
  next he =>
    rw [List.isEmpty_iff.1 he, ← List.append_nil post, List.dropWhile_append_of_pos hpost]
    rfl
  next =>
    rw [List.reverse_append, List.dropWhile_append_of_pos (by simpa using hpost)]

example : KeywordInitialsNotNumeric Char.isDigit := by unfold KeywordInitialsNotNumeric; decide

example :
    let pf : String → Option Nat := fun s =>
      if s = "500" then some 500 else if s = "7" then some 7 else if s = "10" then some 10 else
      if s = "60" then some 60 else if s = "100" then some 100 else if s = "5" then some 5 else none
    [ "BEGIN IONS", "END IONS", "TITLE=x y", "PEPMASS=500 7", "PEPMASS=", "PEPMASS=abc", "CHARGE=2+ and 3+", "TOL=10",
      "TOL= 10", "TOLU=ppm", "RTINSECONDS=60", "100 5", "100", "100 x", "# c", "", "SCANS=3" ].map
      (fun l => classify pf Char.isDigit l.toList) =
    [ .beginIons, .endIons, .title "x y", .pepmass (.ok 500) (.ok 7), .pepmass .absent .absent, .pepmass .bad .absent,
      .charge [2, 3], .tol (.ok 10), .tol .bad, .tolu "ppm", .rt (.ok 60), .peak (.ok 100) (.ok 5),
      .peak (.ok 100) .absent, .peak (.ok 100) .bad, .other, .other, .other ] := by
  intro pf  -- out of the goal, over which every `rw` below abstracts
  simp only [List.map]
  repeat rw [String.toList_ofList]
  decide +kernel +revert

example : ["CHARGE=", "CHARGE=unknown", "CHARGE=Mr", "CHARGE=٣+"].map
    (fun l => classify (ν := Nat) (fun _ => none) Char.isDigit l.toList) = [.charge [], .charge [], .charge [], .charge []] := by
  simp only [List.map]
  repeat rw [String.toList_ofList]
  decide +kernel

example : rustLines "a\nb\r\n\nc".toList = ["a".toList, "b".toList, [], "c".toList] ∧
    rustLines "a\n".toList = ["a".toList] ∧ rustLines [] = [] ∧
    trim "  \t a b \u00a0\r".toList = "a b".toList ∧
    splitAsciiWs " 100   5\t7 ".toList = ["100".toList, "5".toList, "7".toList] ∧
    rustLines "a\r\nb\r\r\n".toList = ["a".toList, "b\r".toList] := by
  repeat rw [String.toList_ofList]
  decide +kernel

end Sage.C17
