import SageModel.Model.C13
import Mathlib.Data.List.Induction

/-!
# C13 — what the competition loop computes

`competition bot psms` (the imperative loop: find-or-insert, then update) is, entry for entry,
`(keysOf psms).map fun k => (k, compOf bot psms k)`: the keys in order of first appearance, each with
the fold of the updates of its PSMs. The target and the decoy side of an entry are treated alike through
`Comp.ixOf c d` / `Comp.scoreOf c d`, `d` the decoy flag.
-/

namespace Sage.C13

variable {κ ι σ : Type}

section loop
variable [DecidableEq κ]

def keysOf (psms : List (Psm κ ι σ)) : List κ :=
  psms.foldl (fun ks p => if p.key ∈ ks then ks else ks ++ [p.key]) []

def compOf [LE σ] [DecidableLE σ] (bot : σ) (psms : List (Psm κ ι σ)) (k : κ) : Comp ι σ :=
  (psms.filter fun p => p.key = k).foldl Comp.upd (Comp.init bot)

theorem keysOf_append_singleton (pre : List (Psm κ ι σ)) (p : Psm κ ι σ) :
    keysOf (pre ++ [p]) = if p.key ∈ keysOf pre then keysOf pre else keysOf pre ++ [p.key] := by
  unfold keysOf
  rw [List.foldl_append]
  rfl

theorem mem_keysOf {psms : List (Psm κ ι σ)} {k : κ} : k ∈ keysOf psms ↔ ∃ p ∈ psms, p.key = k := by
  induction psms using List.reverseRecOn with
  | nil => simp [keysOf]
  | append_singleton pre p ih =>
    simp only [keysOf_append_singleton, List.mem_append, List.mem_singleton, or_and_right, exists_or, exists_eq_left,
      ← ih]
    split
    · exact (or_iff_left_of_imp fun e => e ▸ ‹p.key ∈ keysOf pre›).symm
    · rw [List.mem_append, List.mem_singleton, eq_comm]

theorem nodup_keysOf (psms : List (Psm κ ι σ)) : (keysOf psms).Nodup := by
  induction psms using List.reverseRecOn with
  | nil => exact List.nodup_nil
  | append_singleton pre p ih =>
    rw [keysOf_append_singleton]
    split
    · exact ih
    · exact List.nodup_append.mpr ⟨ih, List.pairwise_singleton _ _,
        fun a ha b hb e => ‹p.key ∉ keysOf pre› (List.mem_singleton.mp hb ▸ e ▸ ha)⟩

section
variable [LE σ] [DecidableLE σ]

theorem compOf_append_singleton (bot : σ) (pre : List (Psm κ ι σ)) (p : Psm κ ι σ) (k : κ) :
    compOf bot (pre ++ [p]) k = if p.key = k then (compOf bot pre k).upd p else compOf bot pre k := by
  unfold compOf
  by_cases h : p.key = k <;> simp [List.filter_append, h, List.foldl_append]

theorem compOf_of_not_mem (bot : σ) (pre : List (Psm κ ι σ)) (k : κ) (h : k ∉ keysOf pre) :
    compOf (ι := ι) bot pre k = Comp.init bot := by
  rw [compOf, List.filter_eq_nil_iff.mpr fun p hp hk => h (mem_keysOf.mpr ⟨p, hp, of_decide_eq_true hk⟩)]
  rfl

theorem updMap_map (bot : σ) {ks : List κ} (hnd : ks.Nodup) (f : κ → Comp ι σ) (p : Psm κ ι σ)
    (hf : p.key ∉ ks → f p.key = Comp.init bot) :
    updMap bot (ks.map fun k => (k, f k)) p =
      (if p.key ∈ ks then ks else ks ++ [p.key]).map fun k => (k, if p.key = k then (f k).upd p else f k) := by
  induction ks with
  | nil => simp [updMap, hf]
  | cons k ks ih =>
    rw [List.nodup_cons] at hnd
    simp only [List.map_cons, updMap]
    by_cases hk : k = p.key
    · subst hk
      simp only [↓reduceIte, List.mem_cons, true_or, List.map_cons, List.cons.injEq, true_and]
      exact List.map_congr_left fun k' hk' => by rw [if_neg fun (h : p.key = k') => hnd.1 (h ▸ hk')]
    · have hk' : ¬ p.key = k := fun h => hk h.symm
      rw [if_neg hk, ih hnd.2 fun h => hf fun h' => (List.mem_cons.mp h').elim hk' h]
      simp only [List.mem_cons, hk', false_or]
      split <;> simp only [List.cons_append, List.map_cons, if_neg hk']

def entriesOf (bot : σ) (psms : List (Psm κ ι σ)) : List (κ × Comp ι σ) :=
  (keysOf psms).map fun k => (k, compOf bot psms k)

theorem foldl_updMap_entriesOf (bot : σ) (pre rest : List (Psm κ ι σ)) :
    rest.foldl (updMap bot) (entriesOf bot pre) = entriesOf bot (pre ++ rest) := by
  induction rest generalizing pre with
  | nil => simp
  | cons p rest ih =>
    have : updMap bot (entriesOf bot pre) p = entriesOf bot (pre ++ [p]) := by
      rw [entriesOf, updMap_map bot (nodup_keysOf pre) _ p (compOf_of_not_mem bot pre p.key),
        ← keysOf_append_singleton]
      simp only [entriesOf, compOf_append_singleton]
    rw [List.foldl_cons, this, ih, List.append_assoc, List.singleton_append]

theorem competition_eq (bot : σ) (psms : List (Psm κ ι σ)) :
    competition bot psms = (keysOf psms).map fun k => (k, compOf bot psms k) :=
  foldl_updMap_entriesOf bot [] psms

theorem nodup_competition (bot : σ) (psms : List (Psm κ ι σ)) :
    ((competition bot psms).map (·.1)).Nodup := by
  rw [competition_eq, List.map_map]
  exact (List.map_id _).symm ▸ nodup_keysOf psms

end

/- the order instances of `σ` are read off the goal or hypothesis (searching them from `LinearOrder` is slow) -/
theorem mem_competition {_ : LE σ} {_ : DecidableLE σ} (bot : σ) (psms : List (Psm κ ι σ)) (k : κ) (c : Comp ι σ) :
    (k, c) ∈ competition bot psms ↔ (∃ p ∈ psms, p.key = k) ∧ c = compOf bot psms k := by
  rw [competition_eq, ← mem_keysOf]
  simp only [List.mem_map, Prod.mk.injEq]
  constructor
  · rintro ⟨k', hk', rfl, rfl⟩; exact ⟨hk', rfl⟩
  · rintro ⟨hk, rfl⟩; exact ⟨k, hk, rfl, rfl⟩

end loop

def Comp.ixOf (c : Comp ι σ) : Bool → Option ι
  | false => c.fix
  | true => c.rix

def Comp.scoreOf (c : Comp ι σ) : Bool → σ
  | false => c.fwd
  | true => c.rev

theorem Comp.ext_sides {a b : Comp ι σ} (h : ∀ d, a.ixOf d = b.ixOf d ∧ a.scoreOf d = b.scoreOf d) : a = b := by
  cases a
  cases b
  rw [Comp.mk.injEq]
  exact ⟨(h false).2, (h false).1, (h true).2, (h true).1⟩

theorem mem_rows {c : Comp ι σ} {r : Row ι σ} :
    r ∈ c.rows ↔ c.ixOf r.decoy = some r.ix ∧ r.score = c.scoreOf r.decoy := by
  have hrows : c.rows = [false, true].filterMap fun d => (c.ixOf d).map fun i => ⟨i, d, c.scoreOf d⟩ := by
    obtain ⟨fwd, fix, rev, rix⟩ := c
    cases fix <;> cases rix <;> rfl
  rw [hrows, List.mem_filterMap]
  constructor
  · rintro ⟨d, -, h⟩
    obtain ⟨i, hi, rfl⟩ := Option.map_eq_some_iff.mp h
    exact ⟨hi, rfl⟩
  · rintro ⟨hi, hs⟩
    refine ⟨r.decoy, by cases r.decoy <;> decide, ?_⟩
    rw [hi, ← hs]
    rfl

theorem Comp.nodup_rows_ix (c : Comp ι σ) (h : ∀ i, c.ixOf false = some i → c.ixOf true ≠ some i) :
    (c.rows.map (·.ix)).Nodup := by
  obtain ⟨fw, fi, rv, ri⟩ := c
  cases fi with
  | none => cases ri <;> simp [Comp.rows]
  | some i =>
    cases ri with
    | none => simp [Comp.rows]
    | some j => simpa [Comp.rows] using fun e : i = j => h i rfl (e ▸ rfl)

theorem foldl_filter_proj {β γ δ : Type} (f : β → γ → β) (g : β → δ) (P : γ → Bool) (h : δ → γ → δ)
    (H : ∀ c p, g (f c p) = if P p then h (g c) p else g c) (l : List γ) (c : β) :
    g (l.foldl f c) = (l.filter P).foldl h (g c) := by
  induction l generalizing c with
  | nil => rfl
  | cons p l ih =>
    rw [List.foldl_cons, ih, H, List.filter_cons]
    split <;> rfl

theorem foldl_last {β γ : Type} (f : β → γ) (l : List β) (o : Option γ) :
    l.foldl (fun _ p => some (f p)) o = (l.getLast?.map f).or o := by
  induction l generalizing o with
  | nil => rfl
  | cons p l ih =>
    rw [List.foldl_cons, ih, List.getLast?_cons]
    cases l.getLast? <;> rfl

section sides
variable {_ : LE σ} {_ : DecidableLE σ}

theorem Comp.upd_ixOf (c : Comp ι σ) (p : Psm κ ι σ) (d : Bool) :
    (c.upd p).ixOf d = if p.decoy == d then some p.ix else c.ixOf d := by
  obtain ⟨k, pd, i, s⟩ := p
  cases d <;> cases pd <;> rfl

theorem Comp.upd_scoreOf (c : Comp ι σ) (p : Psm κ ι σ) (d : Bool) :
    (c.upd p).scoreOf d = if p.decoy == d then smax (c.scoreOf d) p.score else c.scoreOf d := by
  obtain ⟨k, pd, i, s⟩ := p
  cases d <;> cases pd <;> rfl

variable [DecidableEq κ]

theorem compOf_ixOf (bot : σ) (psms : List (Psm κ ι σ)) (k : κ) (d : Bool) :
    (compOf bot psms k).ixOf d =
      (((psms.filter fun p => p.key = k).filter fun p => p.decoy == d).getLast?).map (·.ix) := by
  rw [compOf, foldl_filter_proj Comp.upd (·.ixOf d) (·.decoy == d) (fun _ p => some p.ix)
    (fun c p => c.upd_ixOf p d), foldl_last]
  cases d <;> exact Option.or_none

theorem compOf_scoreOf (bot : σ) (psms : List (Psm κ ι σ)) (k : κ) (d : Bool) :
    (compOf bot psms k).scoreOf d =
      ((psms.filter fun p => p.key = k).filter fun p => p.decoy == d).foldl (fun m p => smax m p.score) bot := by
  rw [compOf, foldl_filter_proj Comp.upd (·.scoreOf d) (·.decoy == d) (fun m p => smax m p.score)
    (fun c p => c.upd_scoreOf p d)]
  cases d <;> rfl

end sides

end Sage.C13
