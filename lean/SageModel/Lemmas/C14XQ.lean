import SageModel.Model.C14
import Mathlib.Algebra.Order.Field.Rat

/-!
# C14 — `XQ = Option Rat`: exact rationals with a non-finite element

`none` stands for every non-finite `f64` (NaN, ±∞). Arithmetic is strict (`none` is absorbing),
`x / 0 = none` (IEEE gives ±∞ or NaN), `fmax`/`fmin` ignore `none` like `f64::max/min` ignore NaN.
The generic model of `SageModel/Model/C14.lean` runs at this type unchanged; a result `some _` says that
no division by zero and no non-finite intermediate value occurred on the way.
-/

namespace Sage.C14

abbrev XQ := Option Rat

namespace XQ

def add : XQ → XQ → XQ
  | some a, some b => some (a + b)
  | _, _ => none
def sub : XQ → XQ → XQ
  | some a, some b => some (a - b)
  | _, _ => none
def mul : XQ → XQ → XQ
  | some a, some b => some (a * b)
  | _, _ => none
def div : XQ → XQ → XQ
  | some a, some b => if b = 0 then none else some (a / b)
  | _, _ => none
def neg : XQ → XQ
  | some a => some (-a)
  | none => none
def fmax : XQ → XQ → XQ
  | none, b => b
  | a, none => a
  | some a, some b => some (max a b)
def fmin : XQ → XQ → XQ
  | none, b => b
  | a, none => a
  | some a, some b => some (min a b)
def clamp01 : XQ → XQ
  | none => none
  | some x => some (if x < 0 then 0 else if 1 < x then 1 else x)
def floorNat : XQ → Nat
  | none => 0
  | some x => x.floor.toNat

end XQ

instance : Add XQ := ⟨XQ.add⟩
instance : Sub XQ := ⟨XQ.sub⟩
instance : Mul XQ := ⟨XQ.mul⟩
instance : Div XQ := ⟨XQ.div⟩
instance : Neg XQ := ⟨XQ.neg⟩
instance : NumExt XQ where
  ofNat n := some (n : Rat)
  floorNat := XQ.floorNat
  fmax := XQ.fmax
  fmin := XQ.fmin
  clamp01 := XQ.clamp01

@[simp] theorem xq_add (a b : Rat) : (some a : XQ) + some b = some (a + b) := rfl
@[simp] theorem xq_sub (a b : Rat) : (some a : XQ) - some b = some (a - b) := rfl
@[simp] theorem xq_mul (a b : Rat) : (some a : XQ) * some b = some (a * b) := rfl
@[simp] theorem xq_neg (a : Rat) : -(some a : XQ) = some (-a) := rfl
theorem xq_div_eq (a b : Rat) : (some a : XQ) / some b = if b = 0 then none else some (a / b) := rfl
theorem xq_div (a b : Rat) (h : b ≠ 0) : (some a : XQ) / some b = some (a / b) := (xq_div_eq a b).trans (if_neg h)
theorem xq_div_zero (a : Rat) : (some a : XQ) / some 0 = none := (xq_div_eq a 0).trans (if_pos rfl)
@[simp] theorem xq_ofNat (n : Nat) : (ofNat n : XQ) = some (n : Rat) := rfl
@[simp] theorem xq_fmax (a b : Rat) : fmax (some a : XQ) (some b) = some (max a b) := rfl
@[simp] theorem xq_clamp01 (a : Rat) : clamp01 (some a : XQ) = some (if a < 0 then 0 else if 1 < a then 1 else a) := rfl
@[simp] theorem xq_fmin (a b : Rat) : fmin (some a : XQ) (some b) = some (min a b) := rfl

end Sage.C14
