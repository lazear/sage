import SageModel.Proto

/-!
# C03 — model of the fragment index (core Lean only)

Mirrors, operation by operation, `crates/sage/src/database.rs`:

* `walkLeft` / `walkRight` / `bss` / `bssWith` — `binary_search_slice` (the two `while` loops; the two
  answers of std's `binary_search_by` are *parameters* of `bss`, `bssWith` plugs a concrete search in;
  the second search runs on `slice[left..]` as in the code);
* `binSearch` — a concrete lower-bound binary search standing in for `slice::binary_search_by`
  (std's result is only specified up to the choice among equal keys; `bss_canonical` shows the
  result of `binary_search_slice` does not depend on that choice);
* `Tol.bounds` — `Tolerance::bounds` (`mass.rs`), generic arithmetic;
* `window` — the window arithmetic at the top of `IndexedDatabase::query` / `IndexedQuery::page_search`
  (`mass = mz * charge`, ppm tolerance divided by the charge, `Pct` on fragments = `unreachable!`);
* `pageSearch` — `IndexedDatabase::query` + `IndexedQuery::page_search`: page range from `min_value`,
  per-page slice `page*B .. min((page+1)*B, len)`, inner index search, the edge filter literally;
* `buildIndex` — the tail of `Parameters::build_from_peptides`: sort by m/z, chunks of `B`,
  `min_value` = first m/z of each chunk, per-chunk sort by peptide index.

Everything is generic in the number type: it runs at `Float32` in the driver and is the subject of the
theorems for an arbitrary `LinearOrder`.

Spec: `scan` = `frags.filter (inWin masses q)`, the linear scan of the property text.
`dbInvClause` is the decidable index invariant evaluated on the layout exported from the real index.

Not modelled: NaN, `-0.0` (the code mixes `total_cmp` and `>=`; on NaN-free, zero-sign-normalised
floats both are the same linear order).
-/

namespace Sage.C03

variable {α : Type}

/-! ## `binary_search_slice` -/

/-- left walk: `while idx > 0 && key(slice[idx], low) != Less { idx -= 1 }` -/
def walkLeft [LT α] [DecidableLT α] (l : Array α) (low : α) : Nat → Nat
  | 0 => 0
  | i+1 => match l[i+1]? with
    | some x => if x < low then i+1 else walkLeft l low i
    | none => i+1   -- out of bounds: Rust would panic; unreachable because the start is ≤ len-1

/-- right walk with fuel: `while idx < len && key(slice[idx], high) != Greater { idx += 1 }` -/
def walkRight [LE α] [DecidableLE α] (l : Array α) (high : α) (idx : Nat) : Nat → Nat
  | 0 => idx
  | f+1 => match l[idx]? with
    | some x => if x ≤ high then walkRight l high (idx+1) f else idx
    | none => idx

/-- `binary_search_slice`, with the two `binary_search_by` answers (`Ok i | Err i => i`) as parameters;
    `rHi` is relative to `slice[left..]` -/
def bss [LT α] [DecidableLT α] [LE α] [DecidableLE α] (l : Array α) (lo hi : α) (rLo rHi : Nat) : Nat × Nat :=
  let L := walkLeft l lo (rLo - 1)       -- `idx.saturating_sub(1)` then the left loop
  (L, min (walkRight l hi (rHi + L) (l.size - (rHi + L))) l.size)

/-- lower-bound binary search on `l[lo..hi)`: first index whose element is not `< x` -/
def lowerBound [LT α] [DecidableLT α] (l : Array α) (x : α) : Nat → Nat → Nat → Nat
  | 0, lo, _ => lo
  | f+1, lo, hi =>
    if lo < hi then
      let mid := (lo + hi) / 2
      match l[mid]? with
      | some y => if y < x then lowerBound l x f (mid+1) hi else lowerBound l x f lo mid
      | none => lo
    else lo

/-- stand-in for `slice.binary_search_by(|a| key(a, &x))`, `Ok(i) | Err(i) => i` -/
def binSearch [LT α] [DecidableLT α] (l : Array α) (x : α) : Nat := lowerBound l x (l.size + 1) 0 l.size

/-- `binary_search_slice` with a concrete binary search `bs` (second search on `slice[left..]`) -/
def bssWith [LT α] [DecidableLT α] [LE α] [DecidableLE α] (bs : Array α → α → Nat) (l : Array α) (lo hi : α) : Nat × Nat :=
  let rLo := bs l lo
  let L := walkLeft l lo (rLo - 1)
  bss l lo hi rLo (bs (l.extract L l.size) hi)

/-- the model of `binary_search_slice(slice, total_cmp, lo, hi)` -/
def binarySearchSlice [LT α] [DecidableLT α] [LE α] [DecidableLE α] (l : Array α) (lo hi : α) : Nat × Nat :=
  bssWith binSearch l lo hi

/-! ## `Tolerance::bounds` and the query windows -/

inductive Tol (α : Type) where
  | ppm (lo hi : α)
  | pct (lo hi : α)
  | da  (lo hi : α)

/-- `Tolerance::bounds(center)`; `million` = `1_000_000.0`, `hundred` = `100.0` -/
def Tol.bounds [Add α] [Mul α] [Div α] (million hundred : α) : Tol α → α → α × α
  | .ppm lo hi, c => (c + c * lo / million, c + c * hi / million)
  | .pct lo hi, c => (c + c * lo / hundred, c + c * hi / hundred)
  | .da lo hi, c => (c + lo, c + hi)

structure Frag (α : Type) where
  pep : Nat
  mz  : α

structure Q (α : Type) where
  fragLo : α
  fragHi : α
  preLo  : α
  preHi  : α

/-- the window arithmetic of `query` + `page_search`; `charge` is `charge as f32`.
    `none` = the `unreachable!` (panic) on a `Pct` fragment tolerance -/
def window [Add α] [Mul α] [Div α] (million hundred : α) (preTol fragTol : Tol α)
    (preMass fragMz charge : α) : Option (Q α) :=
  let mass := fragMz * charge
  let tol : Option (Tol α) := match fragTol with
    | .ppm lo hi => some (.ppm (lo / charge) (hi / charge))
    | .pct _ _ => none
    | .da lo hi => some (.da lo hi)
  match tol with
  | none => none
  | some tol =>
    let f := tol.bounds million hundred mass
    let p := preTol.bounds million hundred preMass
    some { fragLo := f.1, fragHi := f.2, preLo := p.1, preHi := p.2 }

/-! ## `page_search` -/

section search
variable [LT α] [DecidableLT α] [LE α] [DecidableLE α]

def massOf (masses : Array α) (f : Frag α) : Option α := masses[f.pep]?

/-- specification predicate: fragment mass in the fragment window and parent peptide mass in the precursor window -/
def inWin (masses : Array α) (q : Q α) (f : Frag α) : Bool :=
  decide (q.fragLo ≤ f.mz) && decide (f.mz ≤ q.fragHi) &&
  match massOf masses f with
  | some m => decide (q.preLo ≤ m) && decide (m ≤ q.preHi)
  | none => false

/-- the **spec**: linear scan over all stored fragments -/
def scan (masses : Array α) (frags : List (Frag α)) (q : Q α) : List (Frag α) :=
  frags.filter (inWin masses q)

/-- the edge filter of `page_search`, literally (indices compared; a mass is looked at only at
    `pre_idx_lo` / `pre_idx_hi`) -/
def edgeFilter (masses : Array α) (q : Q α) (pLo pHi : Nat) (f : Frag α) : Bool :=
  (decide (pLo < f.pep) || (decide (f.pep = pLo) &&
      match massOf masses f with | some m => decide (q.preLo ≤ m) | none => false)) &&
  (decide (f.pep < pHi) || (decide (f.pep = pHi) &&
      match massOf masses f with | some m => decide (m ≤ q.preHi) | none => false)) &&
  decide (q.fragLo ≤ f.mz) && decide (f.mz ≤ q.fragHi)

/-- `&fragments[page*B .. min((page+1)*B, len)]` -/
def slice (frags : List (Frag α)) (B p : Nat) : List (Frag α) := (frags.drop (p*B)).take B

/-- `IndexedDatabase::query` (the precursor index range) followed by `IndexedQuery::page_search` -/
def pageSearch (bsA : Array α → α → Nat) (bsN : Array Nat → Nat → Nat)
    (masses minv : Array α) (frags : List (Frag α)) (B : Nat) (q : Q α) : List (Frag α) :=
  let pre := bssWith bsA masses q.preLo q.preHi
  let pg := bssWith bsA minv q.fragLo q.fragHi
  (List.range' pg.1 (pg.2 - pg.1)).flatMap fun p =>
    let s := slice frags B p
    let ix := bssWith bsN (s.map (·.pep)).toArray pre.1 pre.2
    ((s.drop ix.1).take (ix.2 - ix.1)).filter (edgeFilter masses q pre.1 pre.2)

/-- `pageSearch` with the concrete binary search -/
def pageSearchC (masses minv : Array α) (frags : List (Frag α)) (B : Nat) (q : Q α) : List (Frag α) :=
  pageSearch binSearch binSearch masses minv frags B q

end search

/-! ## the index invariant -/

def SortedArr [LE α] (l : Array α) : Prop :=
  ∀ (i j : Nat) (x y : α), i ≤ j → l[i]? = some x → l[j]? = some y → x ≤ y

/-- number of buckets: `ceil(n / B)` (what `par_chunks_mut(B)` yields) -/
def nPages (n B : Nat) : Nat := (n + B - 1) / B

/-- what `build_from_peptides` establishes (given peptides sorted by mass) and `page_search` relies on -/
structure DbInv [LE α] (masses minv : Array α) (frags : List (Frag α)) (B : Nat) : Prop where
  massesSorted : SortedArr masses
  bpos : 0 < B
  pages : frags.length ≤ minv.size * B
  minvSorted : SortedArr minv
  lower : ∀ p f m, f ∈ slice frags B p → minv[p]? = some m → m ≤ f.mz
  upper : ∀ p f m, f ∈ slice frags B p → minv[p+1]? = some m → f.mz ≤ m
  keysSorted : ∀ p, SortedArr (((slice frags B p).map (·.pep)).toArray)
  pepValid : ∀ f ∈ frags, f.pep < masses.size

section check
variable [LE α] [DecidableLE α]

/-- adjacent-pairs sortedness check -/
def sortedAdj (l : Array α) : Bool :=
  (List.range (l.size - 1)).all fun i =>
    match l[i]?, l[i+1]? with
    | some x, some y => decide (x ≤ y)
    | _, _ => true

def sortedAdjNat (l : List Nat) : Bool :=
  match l with
  | [] => true
  | [_] => true
  | a :: b :: t => decide (a ≤ b) && sortedAdjNat (b :: t)

/-- decidable index invariant, evaluated by the driver on the layout exported from the REAL index.
    Returns the name of the first violated clause, `""` if all hold. `npages` is stronger than
    `DbInv.pages` (it also excludes the out-of-range slice panic of `page_search`). -/
def dbInvClause (masses minv : Array α) (frags : List (Frag α)) (B : Nat) : String :=
  if B = 0 then "bpos" else
  if !sortedAdj masses then "massesSorted" else
  if minv.size != nPages frags.length B then "npages" else
  if !sortedAdj minv then "minvSorted" else
  if !(frags.all fun f => decide (f.pep < masses.size)) then "pepValid" else
  let pages := List.range minv.size
  if !(pages.all fun p => match minv[p]? with
        | some m => (slice frags B p).all fun f => decide (m ≤ f.mz)
        | none => true) then "lower" else
  if !(pages.all fun p => match minv[p+1]? with
        | some m => (slice frags B p).all fun f => decide (f.mz ≤ m)
        | none => true) then "upper" else
  if !(pages.all fun p => sortedAdjNat ((slice frags B p).map (·.pep))) then "keysSorted" else
  ""

def dbInvOk (masses minv : Array α) (frags : List (Frag α)) (B : Nat) : Bool :=
  dbInvClause masses minv frags B == ""

end check

/-! ## the index builder (tail of `build_from_peptides`) -/

section build
variable [LE α] [DecidableLE α]

def leMz (a b : Frag α) : Bool := decide (a.mz ≤ b.mz)
def lePep (a b : Frag α) : Bool := decide (a.pep ≤ b.pep)

/-- `fragments.sort_by(mz)`; `chunks_mut(B)`: `min = chunk[0].mz`, `chunk.sort_by(peptide_index)`.
    `none` = the panic of `par_chunks_mut(0)`.  (The code's sorts are unstable; the model's are stable.
    Which of several equal-m/z fragments lands in which bucket is therefore not compared — only results.) -/
def buildIndex (B : Nat) (ions : List (Frag α)) : Option (Array α × List (Frag α)) :=
  if B = 0 then none else
  let sorted := ions.mergeSort leMz
  let np := nPages sorted.length B
  let minv := (List.range np).filterMap fun p => (slice sorted B p).head?.map (·.mz)
  let frags := (List.range np).flatMap fun p => (slice sorted B p).mergeSort lePep
  some (minv.toArray, frags)

end build

/-! ## executable spec for `binary_search_slice` -/

section bssSpec
variable [LT α] [DecidableLT α] [LE α] [DecidableLE α]

/-- the "widest range" contract evaluated on a claimed pair `(L, R)`: name of the first violated clause.
    `range`: `L ≤ R ≤ len`; `covers`: every in-bounds element lies in `[L, R)`;
    `tight`: everything strictly after `L` is `≥ lo`, everything in `[L, R)` is `≤ hi`;
    `exit`: `L = 0 ∨ l[L] < lo`, `R = len ∨ hi < l[R]` (these pin the pair uniquely). -/
def bssClause (l : Array α) (lo hi : α) (L R : Nat) : String :=
  if !(decide (L ≤ R) && decide (R ≤ l.size)) then "range" else
  let idx := List.range l.size
  if !(idx.all fun i => match l[i]? with
        | some x => !(decide (lo ≤ x) && decide (x ≤ hi)) || (decide (L ≤ i) && decide (i < R))
        | none => true) then "covers" else
  if !(idx.all fun i => match l[i]? with
        | some x => (!decide (L < i) || decide (lo ≤ x)) && (!(decide (L ≤ i) && decide (i < R)) || decide (x ≤ hi))
        | none => true) then "tight" else
  if !((L == 0 || match l[L]? with | some x => decide (x < lo) | none => false) &&
       (R == l.size || match l[R]? with | some x => decide (hi < x) | none => false)) then "exit" else
  ""

end bssSpec


/-! ## linear-time executable forms

The definitions above are the subject of the theorems; the ones below are what the compiled driver runs.
Each is proved equal to its reference definition (core Lean only) and registered with `@[csimp]`, so every
caller of `buildIndex`, `pageSearchC`, `binarySearchSlice` gets the fast code without any change, and
every theorem about the reference definitions applies to what is executed.

* `buildIndexFast`: one pass over the sorted ions (the reference recomputes `drop (p*B)` for every page:
  `O(n²/B)`);
* `bssFast`: the second binary search runs in place on `l[L..]` (the reference copies the sub-slice);
* `pageSearchFast`: the visited pages are walked in one pass (`O(right_page·B)` list steps per query);
* `pageSearchA`: fragments held in an `Array` (`O(log n + visited pages·B)` per query) with
  `pageSearchA_eq : pageSearchA masses minv frags.toArray B q = pageSearchC masses minv frags B q`
  for callers that keep the array. -/

/-- one pass over consecutive chunks of `B`: `body (l.take B) ++ body ((l.drop B).take B) ++ …` (`k` chunks) -/
def flatChunks {β γ : Type} (body : List β → List γ) (B : Nat) : Nat → List β → List γ
  | 0, _ => []
  | k+1, l => body (l.take B) ++ flatChunks body B k (l.drop B)

theorem flatChunks_eq {β γ : Type} (body : List β → List γ) (B : Nat) (l0 : List β) :
    ∀ (k a : Nat), flatChunks body B k (l0.drop (a*B)) =
      (List.range' a k).flatMap (fun p => body ((l0.drop (p*B)).take B)) := by
  intro k
  induction k with
  | zero => intro a; simp [flatChunks]
  | succ k ih =>
    intro a
    have e : (l0.drop (a*B)).drop B = l0.drop ((a+1)*B) := by
      rw [List.drop_drop, Nat.add_mul, Nat.one_mul]
    simp only [flatChunks, List.range'_succ, List.flatMap_cons, e, ih (a+1)]

theorem filterMap_eq_flatMap {β γ : Type} (f : β → Option γ) (l : List β) :
    l.filterMap f = l.flatMap (fun a => (f a).toList) := by
  induction l with
  | nil => rfl
  | cons a t ih =>
    simp only [List.filterMap_cons, List.flatMap_cons, ih]
    cases f a <;> simp

section
variable [LE α] [DecidableLE α]

/-- `buildIndex` in one pass over the sorted ions (linear apart from the sorts) -/
def buildIndexFast (B : Nat) (ions : List (Frag α)) : Option (Array α × List (Frag α)) :=
  if B = 0 then none else
  let sorted := ions.mergeSort leMz
  let np := nPages sorted.length B
  let minv := flatChunks (fun c => (c.head?.map (·.mz)).toList) B np sorted
  let frags := flatChunks (fun c => c.mergeSort lePep) B np sorted
  some (minv.toArray, frags)

theorem buildIndex_eq_fast (B : Nat) (ions : List (Frag α)) : buildIndex B ions = buildIndexFast B ions := by
  unfold buildIndex buildIndexFast
  split
  · rfl
  · have h := fun {γ : Type} (body : List (Frag α) → List γ) =>
      flatChunks_eq body B (ions.mergeSort leMz) (nPages (ions.mergeSort leMz).length B) 0
    simp only [Nat.zero_mul, List.drop_zero] at h
    simp only [h, filterMap_eq_flatMap, slice, List.range_eq_range']
end

@[csimp] theorem buildIndex_csimp : @buildIndex = @buildIndexFast := by
  funext α _ _ B ions
  exact buildIndex_eq_fast B ions


theorem lowerBound_extract [LT α] [DecidableLT α] (l : Array α) (x : α) (L : Nat) :
    ∀ (f lo hi : Nat), hi + L ≤ l.size →
      lowerBound (l.extract L l.size) x f lo hi + L = lowerBound l x f (lo + L) (hi + L) := by
  suffices h : ∀ (f lo hi : Nat),
      lowerBound (l.extract L l.size) x f lo hi + L = lowerBound l x f (lo + L) (hi + L) from
    fun f lo hi _ => h f lo hi
  -- `(l.extract L l.size)[m]? = l[m + L]?` for every `m` (both sides are `none` past the end), and the
  -- midpoint of the shifted interval is the shifted midpoint: the two searches run in lockstep
  have hget : ∀ m, (l.extract L l.size)[m]? = l[m + L]? := by
    intro m
    rw [Array.getElem?_extract, Nat.min_self, Nat.add_comm]
    split
    · rfl
    · exact (Array.getElem?_eq_none (Nat.sub_le_iff_le_add.1 (Nat.le_of_not_lt ‹_›))).symm
  intro f
  induction f with
  | zero => intro lo hi; rfl
  | succ f ih =>
    intro lo hi
    have hmid : (lo + L + (hi + L)) / 2 = (lo + hi) / 2 + L := by
      rw [Nat.add_add_add_comm, ← Nat.two_mul, Nat.add_mul_div_left _ _ (by decide)]
    rw [lowerBound, lowerBound]
    simp only [hmid, hget, Nat.add_lt_add_iff_right]
    split
    · split
      · split
        · rw [ih, Nat.add_right_comm]
        · exact ih _ _
      · rfl
    · rfl

theorem walkLeft_le' [LT α] [DecidableLT α] (l : Array α) (low : α) (s : Nat) : walkLeft l low s ≤ s := by
  fun_induction walkLeft l low s with
  | case1 => exact Nat.le_refl _
  | case2 => exact Nat.le_refl _
  | case3 i x _ _ ih => exact Nat.le_succ_of_le ih
  | case4 => exact Nat.le_refl _

section
variable [LT α] [DecidableLT α] [LE α] [DecidableLE α]

/-- `binary_search_slice` with the concrete search, the second search done in place on `l[L..]`
    (no copy of the sub-slice) -/
def bssFast (l : Array α) (lo hi : α) : Nat × Nat :=
  let rLo := binSearch l lo
  let L := walkLeft l lo (rLo - 1)
  bss l lo hi rLo (lowerBound l hi (l.size - L + 1) L l.size - L)

theorem bssFast_eq (l : Array α) (lo hi : α) : bssWith binSearch l lo hi = bssFast l lo hi := by
  have key : ∀ L, binSearch (l.extract L l.size) hi = lowerBound l hi (l.size - L + 1) L l.size - L := by
    intro L
    rw [binSearch, Array.size_extract, Nat.min_self]
    rcases Nat.le_total L l.size with hL | hL
    · have := lowerBound_extract l hi L (l.size - L + 1) 0 (l.size - L) (Nat.le_of_eq (Nat.sub_add_cancel hL))
      rw [Nat.zero_add, Nat.sub_add_cancel hL] at this
      exact Nat.eq_sub_of_add_eq this
    · -- `L` past the end: both searches are over an empty interval
      rw [Nat.sub_eq_zero_of_le hL, lowerBound, lowerBound, if_neg (Nat.lt_irrefl 0), if_neg (Nat.not_lt.2 hL),
        Nat.sub_self]
  exact congrArg (bss l lo hi (binSearch l lo)) (key _)
end

section
variable [LT α] [DecidableLT α] [LE α] [DecidableLE α]

/-- what `page_search` does with one page's slice `s` -/
def pageBody (masses : Array α) (q : Q α) (pLo pHi : Nat) (s : List (Frag α)) : List (Frag α) :=
  let ix := bssFast (s.map (·.pep)).toArray pLo pHi
  ((s.drop ix.1).take (ix.2 - ix.1)).filter (edgeFilter masses q pLo pHi)

/-- `pageSearchC` walking the visited pages in one pass over the fragment list: `O(right_page · B)` list
    steps per query instead of `O(pages · n)`, no sub-slice copies in the binary searches -/
def pageSearchFast (masses minv : Array α) (frags : List (Frag α)) (B : Nat) (q : Q α) : List (Frag α) :=
  let pre := bssFast masses q.preLo q.preHi
  let pg := bssFast minv q.fragLo q.fragHi
  flatChunks (pageBody masses q pre.1 pre.2) B (pg.2 - pg.1) (frags.drop (pg.1 * B))

theorem pageSearchC_eq_fast (masses minv : Array α) (frags : List (Frag α)) (B : Nat) (q : Q α) :
    pageSearchC masses minv frags B q = pageSearchFast masses minv frags B q := by
  unfold pageSearchC pageSearch pageSearchFast
  simp only [bssFast_eq, flatChunks_eq, pageBody, slice]

/-- **Array-backed `page_search`**: the fragment list held as an `Array` (random access to a page, like the
    Rust slice `&fragments[page*B .. min((page+1)*B, len)]`): `O(log + visited pages · B)` per query. -/
def pageSearchA (masses minv : Array α) (frags : Array (Frag α)) (B : Nat) (q : Q α) : List (Frag α) :=
  let pre := bssFast masses q.preLo q.preHi
  let pg := bssFast minv q.fragLo q.fragHi
  (List.range' pg.1 (pg.2 - pg.1)).flatMap fun p =>
    pageBody masses q pre.1 pre.2 (frags.extract (p*B) (p*B + B)).toList

omit [LT α] [DecidableLT α] [LE α] [DecidableLE α] in
theorem extract_toList_eq_slice (frags : List (Frag α)) (B p : Nat) :
    (frags.toArray.extract (p*B) (p*B + B)).toList = slice frags B p := by
  simp [slice]

/-- the Array-backed search is the List-based model `pageSearchC` (hence every theorem about it applies) -/
theorem pageSearchA_eq (masses minv : Array α) (frags : List (Frag α)) (B : Nat) (q : Q α) :
    pageSearchA masses minv frags.toArray B q = pageSearchC masses minv frags B q := by
  unfold pageSearchA pageSearchC pageSearch
  simp only [bssFast_eq, extract_toList_eq_slice, pageBody]

end

@[csimp] theorem pageSearchC_csimp : @pageSearchC = @pageSearchFast := by
  funext α _ _ _ _ masses minv frags B q
  exact pageSearchC_eq_fast masses minv frags B q

@[csimp] theorem binarySearchSlice_csimp : @binarySearchSlice = @bssFast := by
  funext α _ _ _ _ l lo hi
  exact bssFast_eq l lo hi



/-! ## the query object: one `query()` followed by a sequence of `page_search` calls

`IndexedDatabase::query` computes the precursor index range once and stores it with the tolerances in an
`IndexedQuery`; `page_search(&self, mz, charge)` only READS that object. `IQuery` / `mkQuery` /
`IQuery.pageSearch` mirror exactly this split; `runSeq` is a sequence of lookups through ONE query object
(what the scorer does: `for peak { for charge in 1..zmax { page_search(peak.mass, charge) } }`, whose
masses are not monotone). `lookup` is the from-scratch reference: a fresh query for every lookup. -/

structure IQuery (α : Type) where
  preTol : Tol α
  fragTol : Tol α
  preMass : α
  preIdxLo : Nat
  preIdxHi : Nat

section iquery
variable [Add α] [Mul α] [Div α] [LT α] [DecidableLT α] [LE α] [DecidableLE α]

/-- `IndexedDatabase::query(precursor_mass, precursor_tol, fragment_tol)` -/
def mkQuery (million hundred : α) (masses : Array α) (preTol fragTol : Tol α) (preMass : α) : IQuery α :=
  let p := preTol.bounds million hundred preMass
  let r := bssWith binSearch masses p.1 p.2
  { preTol := preTol, fragTol := fragTol, preMass := preMass, preIdxLo := r.1, preIdxHi := r.2 }

/-- `IndexedQuery::page_search(&self, fragment_mz, charge)`: reads the query object, returns no new state.
    `none` = the `unreachable!` panic on a `Pct` fragment tolerance. -/
def IQuery.pageSearch (million hundred : α) (iq : IQuery α) (masses minv : Array α) (frags : List (Frag α))
    (B : Nat) (mz charge : α) : Option (List (Frag α)) :=
  match window million hundred iq.preTol iq.fragTol iq.preMass mz charge with
  | none => none
  | some q =>
    let pg := bssWith binSearch minv q.fragLo q.fragHi
    some ((List.range' pg.1 (pg.2 - pg.1)).flatMap fun p =>
      let s := slice frags B p
      let ix := bssWith binSearch (s.map (·.pep)).toArray iq.preIdxLo iq.preIdxHi
      ((s.drop ix.1).take (ix.2 - ix.1)).filter (edgeFilter masses q iq.preIdxLo iq.preIdxHi))

/-- a sequence of lookups `(mz, charge)` through ONE query object, in the given order -/
def runSeq (million hundred : α) (iq : IQuery α) (masses minv : Array α) (frags : List (Frag α)) (B : Nat)
    (l : List (α × α)) : List (Option (List (Frag α))) :=
  l.map fun x => iq.pageSearch million hundred masses minv frags B x.1 x.2

/-- the reference: a fresh query for this one lookup — a function of the database, the query parameters
    and `(mz, charge)` only -/
def lookup (million hundred : α) (masses minv : Array α) (frags : List (Frag α)) (B : Nat)
    (preTol fragTol : Tol α) (preMass mz charge : α) : Option (List (Frag α)) :=
  (window million hundred preTol fragTol preMass mz charge).map (pageSearchC masses minv frags B)

/-- a lookup through a query object is the from-scratch lookup (core-only proof; used by the driver's model) -/
theorem IQuery.pageSearch_eq_lookup (million hundred : α) (masses minv : Array α) (frags : List (Frag α))
    (B : Nat) (preTol fragTol : Tol α) (preMass mz charge : α) :
    (mkQuery million hundred masses preTol fragTol preMass).pageSearch million hundred masses minv frags B mz charge
      = lookup million hundred masses minv frags B preTol fragTol preMass mz charge := by
  unfold IQuery.pageSearch lookup mkQuery
  cases fragTol <;> rfl

end iquery

end Sage.C03
